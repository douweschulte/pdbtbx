/-
C14 — the result map of `chains_in_contact`: exactly the ordered pairs of distinct chain ids with an atom pair
closer than the cut-off.
-/
import PdbModel.Props.C14
import PdbModel.Lemmas.List
namespace PdbModel

def Listed (m : List (String × List String)) (k v : String) : Prop :=
  ∃ vs, m.lookup k = some vs ∧ v ∈ vs

theorem listed_addContact (m : List (String × List String)) (k v k' v' : String) :
    Listed (addContact m k v) k' v' ↔ Listed m k' v' ∨ (k' = k ∧ v' = v) := by
  unfold Listed
  fun_induction addContact m k v with
  | case1 =>  -- no entry left: a new one is appended
    by_cases hk : k' = k
    · simp [hk]
    · simp [List.lookup_cons, hk, beq_eq_false_iff_ne.mpr hk]
  | case2 vs rest =>  -- the entry of `k`
    by_cases hk : k' = k
    · subst hk
      simp only [List.lookup_cons, beq_self_eq_true, Option.some.injEq, exists_eq_left', true_and]
      split
      · next hc => exact ⟨Or.inl, fun h => h.elim id fun e => e ▸ List.contains_iff_mem.mp hc⟩
      · simp
    · simp [List.lookup_cons, hk, beq_eq_false_iff_ne.mpr hk]
  | case3 k0 vs rest h0 ih =>  -- the entry of another key
    by_cases hk : k' = k0
    · subst hk; simp [h0]
    · simpa [List.lookup_cons, hk, beq_eq_false_iff_ne.mpr hk] using ih

/-- **the contact map is exact**: chain id `v` is listed under chain id `k` in the result of
`chains_in_contact` exactly when two chains with these (different) ids have a pair of atoms closer than the
cut-off -/
theorem C14_contact_map_exact (p : PDB) (c : Int) (k v : String) :
    Listed (chainsInContact p c) k v ↔
      ∃ c1 ∈ p.chains, ∃ c2 ∈ p.chains, k = c1.id ∧ v = c2.id ∧ c1.id ≠ c2.id ∧ inContact c c1 c2 = true := by
  unfold chainsInContact
  -- the three nested loops (first chain, second chain, atoms of the first) one after the other
  rw [foldl_iff_or (P := (Listed · k v))
    (Q := fun c1 => ∃ c2 ∈ p.chains, k = c1.id ∧ v = c2.id ∧ c1.id ≠ c2.id ∧ inContact c c1 c2 = true)]
  · simp [Listed]
  intro m c1
  refine foldl_iff_or (P := (Listed · k v)) (fun m c2 => ?_) _ m
  by_cases hid : c1.id = c2.id
  · simp [hid]
  rw [if_neg hid, foldl_iff_or (P := (Listed · k v))
    (Q := fun a1 => (c > 0 && c2.atoms.any fun a2 => decide (a1.d2 a2 < sq c)) = true ∧ k = c1.id ∧ v = c2.id)]
  · simp only [inContact, Bool.and_eq_true, decide_eq_true_eq, List.any_eq_true, ne_eq, hid, not_false_eq_true,
      true_and]
    constructor
    · rintro (h | ⟨a, ha, ⟨hc, hd⟩, hk, hv⟩)
      · exact Or.inl h
      · exact Or.inr ⟨hk, hv, hc, a, ha, hd⟩
    · rintro (h | ⟨hk, hv, hc, a, ha, hd⟩)
      · exact Or.inl h
      · exact Or.inr ⟨a, ha, ⟨hc, hd⟩, hk, hv⟩
  intro m a1
  split
  · rw [listed_addContact]; simp [*]
  · simp [*]

end PdbModel
