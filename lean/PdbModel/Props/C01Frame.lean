/-
C01 — only ATOM / HETATM records add atoms.  Every other record leaves the atoms read so far exactly as they are
(ANISOU only attaches a tensor and is treated separately): the list of all atoms — of the finished models and of the
model being read, in traversal order — is the same before and after.  MODEL and MASTER move the current model to
the finished ones without touching an atom.

ANISOU: the atoms read so far stay the same atoms, in the same order, with every field but the anisotropic tensor
unchanged.  Hence no atom without a record: over any sequence of records the number of atoms read never exceeds the
number of ATOM / HETATM records processed.  And no ATOM / HETATM record is dropped silently: the record is a hydrogen
discarded on request, or it leaves a diagnostic on its line (an identifier or a value the structs refuse), or its
atom is added.
-/
import PdbModel.Lemmas.PdbRead
import PdbModel.Lemmas.Add
namespace PdbModel

def LexItem.touchesAtoms : LexItem → Bool
  | .atom .. => true
  | .anisou .. => true
  | _ => false

/-- **no other record adds, removes or changes an atom** -/
theorem C01_only_atom_records_touch_atoms (o : ReadOpts) (s : PState) (ctx : Nat × List Char) (item : LexItem)
    (h : item.touchesAtoms = false) : (stepItem o s ctx item).1.allAtoms = s.allAtoms := by
  rw [stepItem_footprint]
  cases item
  case atom => cases h
  case anisou => cases h
  case model n =>
    show (stepItem o s ctx (.model n)).1.allAtoms = s.allAtoms
    rw [stepItem_model]
    split <;> exact allAtoms_flush s
  case master => exact allAtoms_flush s
  all_goals rfl

def afterAtom (o : ReadOpts) (s : PState) (ctx : Nat × List Char)
    (het : Bool) (serial : Nat) (name : List Char) (alt : Option (List Char)) (resName chain : List Char)
    (resSeq : Int) (icode : Option (List Char)) (x y z occ b : Flt) (element : List Char) (charge : Int) : PState :=
  (stepItem o s ctx (.atom het serial name alt resName chain resSeq icode x y z occ b element charge)).1

/-- what an ATOM / HETATM record does to the atoms read so far: nothing when it is a hydrogen discarded on request,
nothing but a diagnostic when an identifier or a value is refused, and otherwise its own atom is added -/
theorem atom_record_effect (o : ReadOpts) (s : PState) (ctx : Nat × List Char)
    (het : Bool) (serial : Nat) (name : List Char) (alt : Option (List Char)) (resName chain : List Char)
    (resSeq : Int) (icode : Option (List Char)) (x y z occ b : Flt) (element : List Char) (charge : Int) :
    let r := stepItem o s ctx (.atom het serial name alt resName chain resSeq icode x y z occ b element charge)
    (o.discardHydrogens = true ∧ element = ['H'] ∧ r.1.allAtoms = s.allAtoms) ∨
    (r.2 ≠ [] ∧ r.1.allAtoms = s.allAtoms) ∨
    ∃ a ex, atomNew het (serial + wrapAddN 99999 s.lastAtom s.atomAdd serial) (toString s.nextId).toList name
        x y z occ b element charge = some (a, ex) ∧ r.1.allAtoms.Perm (s.allAtoms ++ [a]) := by
  rcases stepItem_atom o s ctx het serial name alt resName chain resSeq icode x y z occ b element charge with
    ⟨h1, h2, h⟩ | h | h | ⟨a, ex, cid, key, fresh, ha, hf, h⟩ <;> rw [h]
  · exact Or.inl ⟨h1, h2, rfl⟩
  · exact Or.inr (Or.inl ⟨List.cons_ne_nil _ _, rfl⟩)
  · exact Or.inr (Or.inl ⟨List.cons_ne_nil _ _, rfl⟩)
  · refine Or.inr (Or.inr ⟨a, ex, ha, ?_⟩)
    unfold PState.allAtoms
    rw [List.append_assoc]
    exact List.Perm.append_left _ (upsertChain_atoms _ _ _ a _ (fun r => residue_addAtomN_perm r _) hf)

/-- **an ATOM / HETATM record adds exactly its atom or nothing**: after the record either the atoms are what
they were (a discarded hydrogen, an identifier or a value the structs refuse — the latter with a diagnostic), or,
up to the order inside the model being read, they are the atoms before plus the one atom `Atom::new` builds from
the fields of the record (serial number offset by the wrap count) -/
theorem C01_atom_record_adds_its_atom (o : ReadOpts) (s : PState) (ctx : Nat × List Char)
    (het : Bool) (serial : Nat) (name : List Char) (alt : Option (List Char)) (resName chain : List Char)
    (resSeq : Int) (icode : Option (List Char)) (x y z occ b : Flt) (element : List Char) (charge : Int) :
    (afterAtom o s ctx het serial name alt resName chain resSeq icode x y z occ b element charge).allAtoms = s.allAtoms ∨
    ∃ a ex, atomNew het (serial + wrapAddN 99999 s.lastAtom s.atomAdd serial) (toString s.nextId).toList name
        x y z occ b element charge = some (a, ex) ∧
      (afterAtom o s ctx het serial name alt resName chain resSeq icode x y z occ b element charge).allAtoms.Perm
        (s.allAtoms ++ [a]) := by
  rcases atom_record_effect o s ctx het serial name alt resName chain resSeq icode x y z occ b element charge with
    ⟨_, _, h⟩ | ⟨_, h⟩ | h
  · exact Or.inl h
  · exact Or.inl h
  · exact Or.inr h

/-- **placed or reported**: the record is a hydrogen discarded on request, or it leaves a diagnostic on its line, or
its atom is added -/
theorem C01_atom_record_placed_or_reported (o : ReadOpts) (s : PState) (ctx : Nat × List Char)
    (het : Bool) (serial : Nat) (name : List Char) (alt : Option (List Char)) (resName chain : List Char)
    (resSeq : Int) (icode : Option (List Char)) (x y z occ b : Flt) (element : List Char) (charge : Int) :
    (o.discardHydrogens = true ∧ element = ['H']) ∨
    (stepItem o s ctx (.atom het serial name alt resName chain resSeq icode x y z occ b element charge)).2 ≠ [] ∨
    ∃ a, (afterAtom o s ctx het serial name alt resName chain resSeq icode x y z occ b element charge).allAtoms.Perm
      (s.allAtoms ++ [a]) := by
  rcases atom_record_effect o s ctx het serial name alt resName chain resSeq icode x y z occ b element charge with
    ⟨h1, h2, _⟩ | ⟨h, _⟩ | ⟨a, _, _, h⟩
  · exact Or.inl ⟨h1, h2⟩
  · exact Or.inr (Or.inl h)
  · exact Or.inr (Or.inr ⟨a, h⟩)

def Atom.noAtf (a : Atom) : Atom := { a with atf := none }

/-- the search of `setAtf` through the chains: the chain it changes is rebuilt residue by residue and conformer by
conformer, and the only atom that differs from its original differs in the tensor -/
theorem setAtf_go_noAtf (m : ChainMap) (serial : Nat) (t : List Int) (idxs : List Nat) (m' : ChainMap)
    (h : setAtf.go m serial t idxs = some m') : (mapAtoms m').map Atom.noAtf = (mapAtoms m).map Atom.noAtf := by
  induction idxs with
  | nil => cases h
  | cons ci rest ih =>
    unfold setAtf.go at h
    split at h
    · exact ih h
    · next id rs hm =>
      simp only at h
      split at h
      · cases h
        rw [mapAtoms_eq, mapAtoms_eq]
        refine map_flatMap_congr (map_set_of_eq hm (map_flatMap_congr ?_))
        -- the residue loop
        refine (foldl_copy_map (fun q : ResId × Residue => q.2.atoms.map Atom.noAtf) _ ?_ rs ([], false)).trans
          (List.nil_append _)
        intro acc kr
        split
        · exact ⟨_, rfl, rfl⟩
        · refine ⟨_, rfl, map_flatMap_congr ?_⟩
          -- the conformer loop
          refine (foldl_copy_map (fun c : Conformer => c.atoms.map Atom.noAtf) _ ?_ kr.2.conformers
            ([], false)).trans (List.nil_append _)
          intro a c
          split
          · exact ⟨_, rfl, rfl⟩
          · split
            · exact ⟨_, rfl, map_modify_of_eq (f := fun x : Atom => { x with atf := some t }) (fun _ => rfl) _ _⟩
            · exact ⟨_, rfl, rfl⟩
      · exact ih h

theorem setAtf_noAtf (m : ChainMap) (serial : Nat) (t : List Int) :
    (mapAtoms (setAtf m serial t)).map Atom.noAtf = (mapAtoms m).map Atom.noAtf := by
  unfold setAtf
  simp only
  cases h : setAtf.go m serial t (List.range m.length).reverse with
  | none => rfl
  | some m' => exact setAtf_go_noAtf m serial t _ m' h

/-- **an ANISOU record changes nothing but a tensor**: same atoms, same order, every other field as before -/
theorem C01_anisou_only_sets_a_tensor (o : ReadOpts) (s : PState) (ctx : Nat × List Char) (serial : Nat)
    (u : List Int) :
    (stepItem o s ctx (.anisou serial u)).1.allAtoms.map Atom.noAtf = s.allAtoms.map Atom.noAtf := by
  simp only [stepItem]
  split
  · unfold PState.allAtoms
    rw [List.map_append, List.map_append]
    exact congrArg _ (setAtf_noAtf s.cur _ _)
  · rfl

def LexItem.isAtomRecord : LexItem → Bool
  | .atom .. => true
  | _ => false

theorem stepItem_atom_count (o : ReadOpts) (s : PState) (ctx : Nat × List Char) (item : LexItem) :
    (stepItem o s ctx item).1.allAtoms.length ≤ s.allAtoms.length + (if item.isAtomRecord then 1 else 0) := by
  by_cases ht : item.touchesAtoms = false
  · rw [C01_only_atom_records_touch_atoms o s ctx item ht]
    exact Nat.le_add_right _ _
  · cases item with
    | atom het serial name alt resName chain resSeq icode x y z occ b element charge =>
      rcases atom_record_effect o s ctx het serial name alt resName chain resSeq icode x y z occ b element charge with
        ⟨_, _, h⟩ | ⟨_, h⟩ | ⟨a, _, _, hp⟩
      · rw [h]; exact Nat.le_add_right _ _
      · rw [h]; exact Nat.le_add_right _ _
      · rw [hp.length_eq, List.length_append]; exact Nat.le_refl _
    | anisou serial u =>
      have := congrArg List.length (C01_anisou_only_sets_a_tensor o s ctx serial u)
      rw [List.length_map, List.length_map] at this
      rw [this]
      exact Nat.le_add_right _ _
    | _ => exact absurd rfl ht

theorem C01_no_atom_without_a_record (o : ReadOpts) (items : List ((Nat × List Char) × LexItem)) (s : PState) :
    (items.foldl (fun s ci => (stepItem o s ci.1 ci.2).1) s).allAtoms.length ≤
      s.allAtoms.length + (items.filter (fun ci => ci.2.isAtomRecord)).length := by
  rw [← List.countP_eq_length_filter]
  induction items generalizing s with
  | nil => exact Nat.le_refl _
  | cons ci rest ih =>
    have h1 := ih (stepItem o s ci.1 ci.2).1
    have h2 := stepItem_atom_count o s ci.1 ci.2
    rw [List.foldl_cons, List.countP_cons]
    omega

end PdbModel
