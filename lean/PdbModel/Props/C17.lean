/-
C17 — space-group tables are coherent for all 230 groups. What is said of the tables themselves (lengths, no
symbol twice, no blank at either end of a symbol, every operator list closed) is decided by the kernel
(`decide +kernel`) over the whole tables, on data regenerated from src/reference/*.txt on every run; what the
lookups return and what the residues mean as integers follows from that by argument.
-/
import PdbModel.SGSym
import PdbModel.Gen.SGCert
import PdbModel.Lemmas.SG
import PdbModel.Lemmas.List
namespace PdbModel

theorem C17_lengths :
    Gen.hmSymbols.length = 230 ∧ Gen.hallSymbols.length = 230 ∧ Gen.sgOps.length = 230 := by
  decide +kernel

theorem hmSymbol_succ (k : Nat) : hmSymbol (k + 1) = Gen.hmSymbols[k]? := if_neg (Nat.succ_ne_zero k)
theorem hallSymbol_succ (k : Nat) : hallSymbol (k + 1) = Gen.hallSymbols[k]? := if_neg (Nat.succ_ne_zero k)

/-- a number for each symbol; symbols with different numbers are different, which is all that is used -/
def symKey (s : List Nat) : Nat := s.foldl (fun n c => n * 256 + c) 0

/-- the Hall symbols that are not also the Hermann–Mauguin symbol of their own group -/
def hallOnly : List (List Nat) := ((Gen.hmSymbols.zip Gen.hallSymbols).filter fun p => p.1 != p.2).map (·.2)

/-- what makes every lookup come back to its group: no symbol stands twice in its table, and a Hall symbol
stands in the Hermann–Mauguin table at most as the symbol of its own group -/
theorem symbols_distinct :
    distinctNat ((Gen.hmSymbols ++ hallOnly).map symKey) = true ∧ distinctNat (Gen.hallSymbols.map symKey) = true := by
  decide +kernel

theorem symbols_trimmed : (Gen.hmSymbols ++ Gen.hallSymbols).all (fun s => trimCodes s == s) = true := by
  decide +kernel

theorem hm_nodup : Gen.hmSymbols.Nodup := (List.nodup_append.mp (nodup_of_keys _ symbols_distinct.1)).1

theorem hm_hall_same_group {j k : Nat} {s : List Nat} (hj : Gen.hmSymbols[j]? = some s)
    (hk : Gen.hallSymbols[k]? = some s) : j = k := by
  obtain ⟨t, ht⟩ : ∃ t, Gen.hmSymbols[k]? = some t :=
    ⟨_, List.getElem?_eq_getElem (by have := (List.getElem?_eq_some_iff.mp hk).1; have := C17_lengths; omega)⟩
  by_cases hts : t = s
  · exact eq_of_getElem?_eq_some hm_nodup hj (hts ▸ ht)
  · have hmem : s ∈ hallOnly :=
      List.mem_map.mpr ⟨(t, s), List.mem_filter.mpr
        ⟨List.mem_of_getElem? (List.getElem?_zip_eq_some.mpr ⟨ht, hk⟩), by simpa using hts⟩, rfl⟩
    exact absurd rfl
      ((List.nodup_append.mp (nodup_of_keys _ symbols_distinct.1)).2.2 s (List.mem_of_getElem? hj) s hmem)

theorem indexForSymbol_eq_some_iff (s : List Nat) (k : Nat) :
    indexForSymbol s = some (k + 1) ↔ Gen.hmSymbols[k]? = some s ∨ Gen.hallSymbols[k]? = some s := by
  unfold indexForSymbol
  cases hj : Gen.hmSymbols.findIdx? (· == s) with
  | some j =>
    have hs := getElem?_of_findIdx?_beq hj
    simp only [Option.some.injEq, Nat.add_right_cancel_iff]
    exact ⟨fun e => Or.inl (e ▸ hs), fun h => h.elim (eq_of_getElem?_eq_some hm_nodup hs) (hm_hall_same_group hs)⟩
  | none =>
    simp only [Option.map_eq_some_iff, Nat.add_right_cancel_iff, exists_eq_right]
    constructor
    · exact fun h => Or.inr (getElem?_of_findIdx?_beq h)
    · rintro (h | h)
      · rw [findIdx?_beq_of_nodup hm_nodup h] at hj; cases hj
      · exact findIdx?_beq_of_nodup (nodup_of_keys _ symbols_distinct.2) h

/-- for each of the 230 groups: creating the symmetry from its index, from its Hermann–Mauguin symbol and
from its Hall symbol gives the same group -/
theorem C17_index_roundtrip (i : Nat) (h1 : 1 ≤ i) (h2 : i ≤ 230) :
    symmetryFromIndex i = some i ∧
    (∃ s, hmSymbol i = some s ∧ symmetryNew s = some i) ∧
    (∃ s, hallSymbol i = some s ∧ symmetryNew s = some i) := by
  obtain ⟨k, rfl⟩ : ∃ k, i = k + 1 := ⟨i - 1, by omega⟩
  obtain ⟨l1, l2, _⟩ := C17_lengths
  obtain ⟨s, hs⟩ : ∃ s, Gen.hmSymbols[k]? = some s := ⟨_, List.getElem?_eq_getElem (by omega)⟩
  obtain ⟨t, ht⟩ : ∃ t, Gen.hallSymbols[k]? = some t := ⟨_, List.getElem?_eq_getElem (by omega)⟩
  have htrim : ∀ s ∈ Gen.hmSymbols ++ Gen.hallSymbols, symmetryNew s = indexForSymbol s := fun s h => by
    unfold symmetryNew; rw [beq_iff_eq.mp (List.all_eq_true.mp symbols_trimmed s h)]
  refine ⟨?_, ⟨s, (hmSymbol_succ k).trans hs, ?_⟩, ⟨t, (hallSymbol_succ k).trans ht, ?_⟩⟩
  · unfold symmetryFromIndex; rw [if_neg (Nat.succ_ne_zero k), Nat.add_sub_cancel, hs]; rfl
  · rw [htrim s (List.mem_append_left _ (List.mem_of_getElem? hs))]
    exact (indexForSymbol_eq_some_iff s k).mpr (Or.inl hs)
  · rw [htrim t (List.mem_append_right _ (List.mem_of_getElem? ht))]
    exact (indexForSymbol_eq_some_iff t k).mpr (Or.inr ht)

/-- the out-of-range neighbours are refused, not crashed on -/
theorem C17_out_of_range :
    symmetryFromIndex 0 = none ∧ symmetryFromIndex 231 = none ∧
    transformations 0 = none ∧ transformations 231 = none ∧ zOf 0 = none ∧ zOf 231 = none := by
  decide +kernel

/-- Z is the number of operators, the identity comes first -/
theorem C17_z (i : Nat) :
    zOf i = (transformations i).map List.length ∧
    ∀ l, transformations i = some l → l.head? = some identity12 := by
  unfold zOf transformations
  by_cases h : i = 0
  · simp [h]
  · simp only [h, if_false]
    cases Gen.sgOps[i - 1]? with
    | none => simp
    | some ops => simp [allOps]

/-! The certificates of all 230 groups are checked by the kernel, the table cut into three slices so that no evaluation
comes near the default heartbeat limit (the groups from 201 on have up to 192 operators and carry two thirds of the work). -/

theorem sgSlice1_ok : certsOk (Gen.sgTable.take 200) (Gen.sgCert.take 200) = true := by decide +kernel
theorem sgSlice2_ok : certsOk ((Gen.sgTable.drop 200).take 20) ((Gen.sgCert.drop 200).take 20) = true := by
  decide +kernel
theorem sgSlice3_ok : certsOk ((Gen.sgTable.drop 200).drop 20) ((Gen.sgCert.drop 200).drop 20) = true := by
  decide +kernel

theorem sgTable_laws : ∀ p ∈ Gen.sgTable, GroupLaws (allOps p.2) := by
  have split (n : Nat) {l : List (OpTree × List Nat)} (h1 : ∀ p ∈ l.take n, GroupLaws (allOps p.2))
      (h2 : ∀ p ∈ l.drop n, GroupLaws (allOps p.2)) : ∀ p ∈ l, GroupLaws (allOps p.2) := fun p hp => by
    rw [← List.take_append_drop n l] at hp
    exact (List.mem_append.mp hp).elim (h1 p) (h2 p)
  exact split 200 (certsOk_spec _ _ sgSlice1_ok)
    (split 20 (certsOk_spec _ _ sgSlice2_ok) (certsOk_spec _ _ sgSlice3_ok))

/-- for every group: operators pairwise distinct, rotation entries −1/0/1 with determinant ±1 (residue
form), translations proper twelfths, closed under composition modulo whole-cell translations -/
theorem C17_operators (i : Nat) (l : List Nat) (h : transformations i = some l) :
    (∀ o ∈ l, opOk o = true) ∧ l.Nodup ∧ (∀ a ∈ l, ∀ b ∈ l, compose12 a b ∈ l) := by
  unfold transformations at h
  split at h
  · cases h
  · obtain ⟨ops, hs, rfl⟩ := Option.map_eq_some_iff.mp h
    obtain ⟨p, hp, rfl⟩ := List.mem_map.mp (List.mem_of_getElem? hs : ops ∈ Gen.sgTable.map (·.2))
    exact sgTable_laws p hp

theorem opOk_iff (o : Nat) : opOk o = true ↔
    rotEntryOk (e0 o) = true ∧ rotEntryOk (e1 o) = true ∧ rotEntryOk (e2 o) = true ∧ rotEntryOk (e4 o) = true ∧
    rotEntryOk (e5 o) = true ∧ rotEntryOk (e6 o) = true ∧ rotEntryOk (e8 o) = true ∧ rotEntryOk (e9 o) = true ∧
    rotEntryOk (e10 o) = true ∧ e3 o < 12 ∧ e7 o < 12 ∧ e11 o < 12 ∧ (det12 o = 1 ∨ det12 o = 11) ∧
    o < 281474976710656 := by
  simp only [opOk, Bool.and_eq_true, decide_eq_true_eq, Bool.or_eq_true, beq_iff_eq, and_assoc]

/-- reading the residues back as integers: every rotation entry is −1, 0 or 1 and every translation a
multiple of one twelfth below one cell -/
theorem C17_entries_integral (o : Nat) (h : opOk o = true) :
    (∀ d ∈ [e0 o, e1 o, e2 o, e4 o, e5 o, e6 o, e8 o, e9 o, e10 o], toZ d = -1 ∨ toZ d = 0 ∨ toZ d = 1) ∧
    e3 o < 12 ∧ e7 o < 12 ∧ e11 o < 12 := by
  obtain ⟨h0, h1, h2, h4, h5, h6, h8, h9, h10, t3, t7, t11, _⟩ := (opOk_iff o).mp h
  simp only [List.forall_mem_cons]
  exact ⟨⟨rotEntryOk_toZ _ h0, rotEntryOk_toZ _ h1, rotEntryOk_toZ _ h2, rotEntryOk_toZ _ h4, rotEntryOk_toZ _ h5,
    rotEntryOk_toZ _ h6, rotEntryOk_toZ _ h8, rotEntryOk_toZ _ h9, rotEntryOk_toZ _ h10, nofun⟩, t3, t7, t11⟩

def detZ (a b c d e f g h i : Int) : Int := a * (e * i - f * h) - b * (d * i - f * g) + c * (d * h - e * g)

/-- a 2×2 minor of entries −1/0/1 lies between −2 and 2, and so does its product with another such entry -/
theorem cofactor_bound {x a b c d : Int} (hx : x = -1 ∨ x = 0 ∨ x = 1) (ha : a = -1 ∨ a = 0 ∨ a = 1)
    (hb : b = -1 ∨ b = 0 ∨ b = 1) (hc : -1 ≤ c ∧ c ≤ 1) (hd : -1 ≤ d ∧ d ≤ 1) :
    -2 ≤ x * (a * d - b * c) ∧ x * (a * d - b * c) ≤ 2 := by
  have := unit_mul_bound ha hd
  have := unit_mul_bound hb hc
  exact unit_mul_bound hx (by omega)

/-- integer determinant ±1 for every operator that passes the table check: the integer determinant has the
residue `det12`, which is 1 or 11, and lies between −6 and 6 -/
theorem C17_determinant (o : Nat) (h : opOk o = true) :
    detZ (toZ (e0 o)) (toZ (e1 o)) (toZ (e2 o)) (toZ (e4 o)) (toZ (e5 o)) (toZ (e6 o)) (toZ (e8 o)) (toZ (e9 o))
      (toZ (e10 o)) = 1 ∨
    detZ (toZ (e0 o)) (toZ (e1 o)) (toZ (e2 o)) (toZ (e4 o)) (toZ (e5 o)) (toZ (e6 o)) (toZ (e8 o)) (toZ (e9 o))
      (toZ (e10 o)) = -1 := by
  obtain ⟨h0, h1, h2, h4, h5, h6, h8, h9, h10, _, _, _, hdet, _⟩ := (opOk_iff o).mp h
  have hr : Rep (det12 o) (detZ (toZ (e0 o)) (toZ (e1 o)) (toZ (e2 o)) (toZ (e4 o)) (toZ (e5 o)) (toZ (e6 o))
      (toZ (e8 o)) (toZ (e9 o)) (toZ (e10 o))) :=
    ((((Rep.residue _).mul (((Rep.residue _).mul (.residue _)).sub ((Rep.residue _).mul (.residue _)))).sub
      ((Rep.residue _).mul (((Rep.residue _).mul (.residue _)).sub ((Rep.residue _).mul (.residue _))))).add
      ((Rep.residue _).mul (((Rep.residue _).mul (.residue _)).sub ((Rep.residue _).mul (.residue _))))).mod
  have := cofactor_bound (rotEntryOk_toZ _ h0) (rotEntryOk_toZ _ h5) (rotEntryOk_toZ _ h6)
    (rotEntryOk_bound _ h9) (rotEntryOk_bound _ h10)
  have := cofactor_bound (rotEntryOk_toZ _ h1) (rotEntryOk_toZ _ h4) (rotEntryOk_toZ _ h6)
    (rotEntryOk_bound _ h8) (rotEntryOk_bound _ h10)
  have := cofactor_bound (rotEntryOk_toZ _ h2) (rotEntryOk_toZ _ h4) (rotEntryOk_toZ _ h5)
    (rotEntryOk_bound _ h8) (rotEntryOk_bound _ h9)
  exact hr.unit hdet (by unfold detZ; omega)

/-- the product of two table operators read back as integers is the integer matrix product (rotation) and
the affine image reduced modulo whole cells (translation): row 0, column 0 and row 0 translation shown,
the other entries are the same lemma (`dot_residue`, `translation_residue`) -/
theorem C17_compose_is_matrix_product (a b : Nat) (ha : opOk a = true) (hb : opOk b = true) :
    toZ ((e0 a * e0 b + e1 a * e4 b + e2 a * e8 b) % 12) =
      toZ (e0 a) * toZ (e0 b) + toZ (e1 a) * toZ (e4 b) + toZ (e2 a) * toZ (e8 b) ∧
    (((e0 a * e3 b + e1 a * e7 b + e2 a * e11 b + e3 a) % 12 : Nat) : Int) =
      (toZ (e0 a) * e3 b + toZ (e1 a) * e7 b + toZ (e2 a) * e11 b + e3 a) % 12 := by
  obtain ⟨a0, a1, a2, _⟩ := (opOk_iff a).mp ha
  obtain ⟨b0, _, _, b4, _, _, b8, _⟩ := (opOk_iff b).mp hb
  exact ⟨dot_residue _ _ _ _ _ _ a0 a1 a2 b0 b4 b8, translation_residue _ _ _ _ _ _ _⟩

/-- non-vacuity: group 19 (P 21 21 21) has Z = 4 and its table passes -/
example : zOf 19 = some 4 ∧ (transformations 19).isSome = true := by decide +kernel

end PdbModel
