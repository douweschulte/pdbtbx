/-
C04 — the typed column accessors on what the lexer collected: the cells the writer prints come back through
`get_text` / `get_f64` / `get_usize` / `get_isize` as the original text, the original number rounded to five
decimals, the original serial or model number and the original residue number or charge.  Together with
`C04_written_table_read_back` (the table is collected as its cells) this is the cell-level half of the round trip;
how `parse_atoms` assembles the typed cells into atoms is tied to the code by the correspondence.
-/
import PdbModel.CifRead
import PdbModel.Props.C04Row
namespace PdbModel

theorem numValue_int? (neg : Bool) (m sig : Nat) (hm : m < 10 ^ 20) :
    (numValue neg m sig 0).int? = some (if neg then -(m : Int) else m) := by
  rw [numValue_small neg m sig 0 (Int.le_refl 0) (by omega) hm]
  split
  · next h => subst h; cases neg <;> simp [Flt.int?]
  · simp [Flt.int?]

/-- **a text cell comes back as its text** -/
theorem C04_text_cell (t : List Char) (ht : BareWord t) : getText (classify t) = (some t, true) := by
  rw [classify_word ht.word, ht.2.2.2]
  -- no line break at the end of a word
  have hlast : ∀ x ∈ t.reverse, x ≠ '\n' ∧ x ≠ '\r' := by
    intro x hx
    have := ht.2.1 x (List.mem_reverse.mp hx)
    simp only [isAsciiWs, Bool.or_eq_false_iff, beq_eq_false_iff_ne, ne_eq] at this
    exact ⟨this.1.1.2, this.1.2⟩
  have hstrip : stripEol t = t := by
    unfold stripEol
    split
    · next r' he => exact absurd rfl (hlast '\n' (by rw [he]; simp)).1
    · next r' he => exact absurd rfl (hlast '\r' (by rw [he]; simp)).2
    · next r' he => exact absurd rfl (hlast '\n' (by rw [he]; simp)).1
    · next r' he => exact absurd rfl (hlast '\r' (by rw [he]; simp)).2
    · rfl
  simp only [getText, hstrip]

/-- **a serial / model number cell comes back as the number** -/
theorem C04_nat_cell (n : Nat) (hn : n < 2 ^ 64) :
    ∃ ex, getUsize (classify (natDigits n)) = .ok (some n, ex) := by
  obtain ⟨hne, hall, hval⟩ := natDigits_spec n
  have h : parseNumeric (natDigits n) = _ := parseNumeric_int false _ hne hall
  have hcast : (0 : Int) ≤ (n : Int) ∧ (n : Int) < 2 ^ 64 := ⟨by omega, by exact_mod_cast hn⟩
  simp only [classify_of_numeric h, hval, getUsize, getF64, numValue_int? false n _ (by omega), Bool.false_eq_true,
    if_false, hcast, and_self, if_true, Int.toNat_natCast]
  exact ⟨_, rfl⟩

/-- **a residue number / charge cell comes back as the number** -/
theorem C04_int_cell (i : Int) (hlo : -(2 ^ 63 : Int) ≤ i) (hhi : i < 2 ^ 63) :
    ∃ ex, getIsize (classify (intText i)) = .ok (some i, ex) := by
  obtain ⟨hne, hall, hval⟩ := natDigits_spec i.natAbs
  have h := parseNumeric_int (decide (i < 0)) _ hne hall
  rw [← intText_eq] at h
  have hm : (if decide (i < 0) = true then -(i.natAbs : Int) else i.natAbs) = i := by
    by_cases hneg : i < 0 <;> simp [hneg] <;> omega
  simp only [classify_of_numeric h, hval, getIsize, getF64, numValue_int? _ i.natAbs _ (by omega), hm, hlo, hhi,
    and_self, if_true]
  exact ⟨_, rfl⟩

/-- **a coordinate / occupancy / B-factor / tensor cell comes back as the value rounded to five decimals** -/
theorem C04_float_cell (v : Int) (hv : v.natAbs < 10 ^ 18) :
    ∃ f ex, getF64 (classify (printFloat v).1) = .ok (some f, ex) ∧ f.micro? = some (rounded5 v) := by
  obtain ⟨f, sig, hp, hm⟩ := C04_print_float_read_back v hv
  rw [classify_of_numeric hp]
  exact ⟨f, _, rfl, hm⟩

end PdbModel
