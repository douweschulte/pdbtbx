/-
C15 on the PDB reader model: with only-atomic-coordinates nothing but ATOM / HETATM / MODEL / ENDMDL / TER / END
records is lexed, and no metadata is read.
-/
import PdbModel.Lemmas.PdbRead
namespace PdbModel

/-- the items the reader still produces under `only_atomic_coords` -/
def LexItem.atomicOnly : LexItem → Bool
  | .atom .. => true
  | .model _ => true
  | .endModel => true
  | .ter => true
  | .endd => true
  | .empty => true
  | _ => false

theorem lexAtom_atomicOnly (ln : Nat) (line : List Char) (het : Bool) :
    (lexAtom ln line het).1.atomicOnly = true := by
  unfold lexAtom
  rfl

/-- **only ATOM-type records are lexed**: under `only_atomic_coords` every line yields an atom, a model
delimiter, TER, END or nothing -/
theorem C15_pdb_atomic_items (line : List Char) (ln : Nat) (lvl : Strictness) (item : LexItem) (ds : List LDiag)
    (h : lexLineRaw line ln lvl true = .ok (item, ds)) : item.atomicOnly = true := by
  revert h
  unfold lexLineRaw
  simp only [Bool.not_true, Bool.false_and, Bool.false_eq_true, if_false]
  -- `iteInduction` and not `split`, which simplifies the whole chain of conditions again at every level
  repeat' refine iteInduction (motive := fun r => r = Except.ok (item, ds) → item.atomicOnly = true) (fun _ => ?_) fun _ => ?_
  all_goals intro h; cases h; rfl

/-- everything of the parser state that feeds the metadata of the result -/
structure MetaPart where
  info : Meta
  scale : List (Option (List Flt))
  origx : List (Option (List Flt))
  mtrix : List (Nat × List (Option (List Flt)) × Bool)
  dbrefs : List (String × DbRef × Bool)
  modifications : List ((Nat × List Char) × LexItem)
  bonds : List ((Nat × List Char) × LexItem)
  seqres : List (Char × List (Nat × Nat × List (List Char)))
  seqresLines : List (Nat × List Char)

def PState.metaPart (s : PState) : MetaPart :=
  ⟨s.info, s.scale, s.origx, s.mtrix, s.dbrefs, s.modifications, s.bonds, s.seqres, s.seqresLines⟩

theorem stepItem_atomic_meta (o : ReadOpts) (s : PState) (ctx : Nat × List Char) (item : LexItem)
    (h : item.atomicOnly = true) : (stepItem o s ctx item).1.metaPart = s.metaPart := by
  rw [stepItem_footprint]
  cases item
  case atom | model | endModel | ter | endd | empty => rfl
  all_goals cases h

theorem stepLine_atomic_meta (o : ReadOpts) (ho : o.onlyAtomicCoords = true) (s : PState) (ln : Nat)
    (line : List Char) : (stepLine o s ln line).metaPart = s.metaPart := by
  rw [stepLine_proj PState.metaPart (fun _ _ => rfl), lexLine, ho]
  split
  · rfl
  · cases h : lexLineRaw line ln o.level true with
    | error e => rfl
    | ok p => exact stepItem_atomic_meta o _ _ _ (C15_pdb_atomic_items line ln o.level p.1 p.2 h)

/-- **no metadata under only-atomic-coordinates** (PDB reader): whatever the text, the structure that comes
back has no identifier, remarks, cell, space group, scale, origx, NCS operators, database references or bonds -/
theorem C15_pdb_atomic_no_metadata (o : ReadOpts) (ho : o.onlyAtomicCoords = true) (lines : List (List Char))
    (f : PdbFile) (errs : List PDiag) (h : readPdbCore o lines = (f, errs)) :
    f.info.identifier = none ∧ f.info.remarks = [] ∧ f.info.cell = none ∧ f.info.symmetry = none ∧
    f.info.scale = none ∧ f.info.origx = none ∧ f.info.mtrix = [] ∧ f.info.dbrefs = [] ∧ f.info.bonds = [] := by
  have hm : (parseLines o lines).metaPart = ({} : PState).metaPart :=
    parseLines_induction (motive := fun s => s.metaPart = _) o lines rfl
      fun s _ _ _ hs => (stepLine_atomic_meta o ho s _ _).trans hs
  obtain ⟨h1, h2, h3, h4, h5, -, h7, -⟩ := MetaPart.mk.inj hm
  obtain ⟨p, hp⟩ := finishPdb_info (parseLines o lines)
  rw [readPdbCore_eq] at h
  obtain ⟨rfl, -⟩ := Prod.mk.inj h
  rw [hp, h1, h2, h3, h4, h5, h7]
  exact ⟨rfl, rfl, rfl, rfl, rfl, rfl, rfl, rfl, rfl⟩

end PdbModel
