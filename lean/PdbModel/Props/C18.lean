/-
C18 — validation reports exactly the documented inconsistencies.
-/
import PdbModel.Validate
import PdbModel.Props.C09
namespace PdbModel

/-- `Atom::corresponds` is exactly equality on serial number, name, element, charge and presence of an
anisotropic tensor -/
theorem C18_corresponds (a b : Atom) :
    a.corresponds b = true ↔
      (a.serial = b.serial ∧ a.name = b.name ∧ a.element = b.element ∧ a.charge = b.charge ∧
        (a.atf.isSome = b.atf.isSome)) := by
  unfold Atom.corresponds
  cases ha : a.atf <;> cases hb : b.atf <;> simp [and_assoc]

theorem correspondLoop_eq (first cur : List Atom) (fuel i : Nat) :
    correspondLoop first cur fuel i = mismatches ((first.drop i).take fuel) ((cur.drop i).take fuel) := by
  induction fuel generalizing i with
  | zero => rfl
  | succ f ih =>
    rw [correspondLoop, ih, ← List.head?_drop, ← List.head?_drop, ← List.tail_drop, ← List.tail_drop]
    cases cur.drop i with
    | nil => simp [mismatches]
    | cons c cs =>
      cases first.drop i with
      | nil => rfl
      | cons s ss => cases h : s.corresponds c <;> simp [mismatches, h]

/-- General validation is exactly the documented rule list, in order and multiplicity: for every later
model a size diagnostic (all atoms, then non-hetero atoms) when the counts differ from the first model's,
otherwise one correspondence diagnostic per position whose atom differs; and 'No Atoms' exactly when the
structure has no atom. -/
theorem C18_validate_exact (p : PDB) : validate p = specValidate p := by
  unfold validate specValidate validateModels PDB.modelCount
  congr 1
  · match p.models with
    | [] => rfl
    | [_] => rfl
    | first :: second :: rest =>
      rw [if_pos (by simp)]
      refine congrArg (List.flatMap · _) (funext fun m => ?_)
      simp only [(C09_counts_model _).2.2.2, bne_iff_ne]
      refine ite_congr rfl (fun _ => rfl) fun h1 => ite_congr rfl (fun _ => rfl) fun _ => ?_
      -- both models have as many atoms as the loop has fuel
      rw [correspondLoop_eq, List.drop_zero, List.drop_zero, List.take_length, Decidable.not_not.mp h1,
        List.take_length]
  · simp only [List.isEmpty_iff]

theorem C18_no_atoms_iff (p : PDB) :
    (ErrorLevel.breaking, "No Atoms") ∈ validate p ↔ p.atoms = [] := by
  rw [C18_validate_exact, specValidate, List.mem_append, or_iff_right]
  · simp
  · -- what is said about the models are warnings
    split
    · simp only [List.mem_flatMap, not_exists, not_and]
      intro m _
      split
      · simp
      · split <;> simp [mismatches]
    · exact List.not_mem_nil

/-- a correspondence diagnostic for exactly the positions whose atom differs from the first model's -/
theorem C18_mismatch_count (first cur : List Atom) :
    (mismatches first cur).length = ((List.zip first cur).filter (fun sc => !sc.1.corresponds sc.2)).length := by
  unfold mismatches
  induction List.zip first cur with
  | nil => rfl
  | cons x xs ih =>
    simp only [List.flatMap_cons, List.length_append, List.filter_cons, ih]
    cases x.1.corresponds x.2 <;> simp <;> omega

theorem whenD_length (c : Bool) (s : String) : (whenD c s).length = if c then 1 else 0 := by
  cases c <;> rfl

/-- exactly one diagnostic per atom value that does not fit its column, none otherwise -/
theorem C18_atom_column_count (a : Atom) :
    (atomColumnDiags a).length =
      (if a.name.length > 4 then 1 else 0) + (if a.serial > 99999 then 1 else 0) +
      (if a.charge > 9 ∨ a.charge < -9 then 1 else 0) +
      (if a.occ > 999990000 ∨ a.occ < -99990000 then 1 else 0) +
      (if a.b > 999990000 ∨ a.b < -99990000 then 1 else 0) +
      (if a.x > 9999999000 ∨ a.x < -999999000 then 1 else 0) +
      (if a.y > 9999999000 ∨ a.y < -999999000 then 1 else 0) +
      (if a.z > 9999999000 ∨ a.z < -999999000 then 1 else 0) := by
  unfold atomColumnDiags
  simp only [List.length_append, whenD_length, Bool.or_eq_true, decide_eq_true_eq]

theorem whenD_nil (c : Bool) (s : String) : whenD c s = [] ↔ c = false := by
  cases c <;> simp [whenD, L]

theorem not_outside (a lo hi : Int) : (decide (a > hi) || decide (a < lo)) = false ↔ lo ≤ a ∧ a ≤ hi := by
  rw [Bool.or_eq_false_iff, decide_eq_false_iff_not, decide_eq_false_iff_not, Int.not_lt, Int.not_lt, and_comm]

theorem atomColumnDiags_nil (a : Atom) : atomColumnDiags a = [] ↔ atomFits a = true := by
  simp only [atomColumnDiags, atomFits, List.append_eq_nil_iff, whenD_nil, not_outside, Bool.and_eq_true,
    decide_eq_false_iff_not, decide_eq_true_eq, Nat.not_lt, and_assoc]

theorem conformerColumnDiags_nil (c : Conformer) :
    conformerColumnDiags c = [] ↔ (conformerFits c = true ∧ ∀ a ∈ c.atoms, atomFits a = true) := by
  unfold conformerColumnDiags conformerFits
  cases c.alt <;> cases c.modification <;>
    simp only [List.append_eq_nil_iff, whenD_nil, List.flatMap_eq_nil_iff, atomColumnDiags_nil, Bool.and_eq_true,
      decide_eq_true_eq, decide_eq_false_iff_not, Nat.not_lt, and_assoc, and_true]

theorem residueColumnDiags_nil (r : Residue) :
    residueColumnDiags r = [] ↔ (residueFits r = true ∧ ∀ c ∈ r.conformers,
      (conformerFits c = true ∧ ∀ a ∈ c.atoms, atomFits a = true)) := by
  unfold residueColumnDiags residueFits
  cases r.icode <;>
    simp only [List.append_eq_nil_iff, whenD_nil, List.flatMap_eq_nil_iff, conformerColumnDiags_nil,
      Bool.and_eq_true, decide_eq_true_eq, decide_eq_false_iff_not, Nat.not_lt, Int.not_lt, and_assoc, and_true,
      and_left_comm]

/-- PDB validation = general validation followed by the column diagnostics; there is no column
diagnostic exactly when every value lies in the documented range (both ends) -/
theorem C18_validate_pdb_exact (p : PDB) :
    validatePdb p = validate p ++ p.models.flatMap modelColumnDiags ∧
    (p.models.flatMap modelColumnDiags = [] ↔ fitsPdbColumns p = true) := by
  refine ⟨rfl, ?_⟩
  -- the diagnostics ask level inside level, the ranges walk by walk: distribute the one, unfold the other
  simp only [fitsPdbColumns, PDB.chains, PDB.residues, PDB.conformers, PDB.atoms, Model.residues, Model.conformers,
    Model.atoms, Chain.conformers, Chain.atoms, Residue.atoms, modelColumnDiags, chainColumnDiags,
    List.flatMap_eq_nil_iff, List.append_eq_nil_iff, whenD_nil, residueColumnDiags_nil, Bool.and_eq_true,
    List.all_eq_true, List.forall_mem_flatMap, imp_and, forall_and, and_assoc, decide_eq_false_iff_not,
    decide_eq_true_eq, Nat.not_lt]

/-- non-vacuity: both ends of a range are reported, the ends themselves are not -/
example :
    let a : Atom := default
    atomColumnDiags { a with x := -999999000, occ := 999990000 } = [] ∧
    atomColumnDiags { a with x := -1000000000 } = L "Atom x position out of bounds" ∧
    atomColumnDiags { a with occ := -100000000 } = L "Atom occupancy out of bounds" ∧
    residueColumnDiags ⟨-1000, none, []⟩ = L "Residue serial number too low" :=
  ⟨rfl, rfl, rfl, rfl⟩

end PdbModel
