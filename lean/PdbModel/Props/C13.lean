/-
C13 — transformations obey their algebra and move structures atom by atom.
The algebraic theorems hold in every commutative ring (hence for exact real arithmetic and for the `Int`
instance the correspondence runs); IEEE rounding and `sin_cos` are not modelled.
-/
import PdbModel.Geom
import Mathlib.Tactic.Ring
import Mathlib.Tactic.LinearCombination
namespace PdbModel
variable {R : Type} [CommRing R]

theorem C13_identity (p : R × R × R) : (Mat.identity (0 : R) 1).apply p = p := by
  obtain ⟨x, y, z⟩ := p
  simp [Mat.apply, Mat.identity, mulAdd]

/-- applying a combined transformation equals applying its two parts in the stated order -/
theorem C13_combine (s o : Mat R) (p : R × R × R) : (s.combine o).apply p = o.apply (s.apply p) := by
  obtain ⟨x, y, z⟩ := p
  simp only [Mat.apply, Mat.combine, mulAdd, Prod.mk.injEq]
  refine ⟨?_, ?_, ?_⟩ <;> ring

theorem C13_combine_assoc (a b c : Mat R) (p : R × R × R) :
    ((a.combine b).combine c).apply p = (a.combine (b.combine c)).apply p := by
  simp only [C13_combine]

theorem C13_combine_identity (m : Mat R) (p : R × R × R) :
    (m.combine (Mat.identity 0 1)).apply p = m.apply p ∧ ((Mat.identity 0 1).combine m).apply p = m.apply p := by
  simp only [C13_combine, C13_identity, and_self]

def d2 (p q : R × R × R) : R := (p.1 - q.1) ^ 2 + (p.2.1 - q.2.1) ^ 2 + (p.2.2 - q.2.2) ^ 2
def dot3 (o p q : R × R × R) : R :=
  (p.1 - o.1) * (q.1 - o.1) + (p.2.1 - o.2.1) * (q.2.1 - o.2.1) + (p.2.2 - o.2.2) * (q.2.2 - o.2.2)

theorem d2_eq_dot3 (p q : R × R × R) : d2 p q = dot3 q p p := by
  simp only [d2, dot3]; ring

/-- rotations (any `s`, `c` with `s² + c² = 1`, so every angle) preserve angles (dot products of difference
vectors) … -/
theorem C13_rotation_angles (s c : R) (h : s ^ 2 + c ^ 2 = 1) (o p q : R × R × R) :
    dot3 ((Mat.rotX 0 1 s c).apply o) ((Mat.rotX 0 1 s c).apply p) ((Mat.rotX 0 1 s c).apply q) = dot3 o p q ∧
    dot3 ((Mat.rotY 0 1 s c).apply o) ((Mat.rotY 0 1 s c).apply p) ((Mat.rotY 0 1 s c).apply q) = dot3 o p q ∧
    dot3 ((Mat.rotZ 0 1 s c).apply o) ((Mat.rotZ 0 1 s c).apply p) ((Mat.rotZ 0 1 s c).apply q) = dot3 o p q := by
  obtain ⟨a, b, e⟩ := o; obtain ⟨x, y, z⟩ := p; obtain ⟨x', y', z'⟩ := q
  simp only [dot3, Mat.apply, Mat.rotX, Mat.rotY, Mat.rotZ, mulAdd]
  refine ⟨?_, ?_, ?_⟩
  · linear_combination ((y - b) * (y' - b) + (z - e) * (z' - e)) * h
  · linear_combination ((x - a) * (x' - a) + (z - e) * (z' - e)) * h
  · linear_combination ((x - a) * (x' - a) + (y - b) * (y' - b)) * h

/-- … and so distances -/
theorem C13_rotation_isometry (s c : R) (h : s ^ 2 + c ^ 2 = 1) (p q : R × R × R) :
    d2 ((Mat.rotX 0 1 s c).apply p) ((Mat.rotX 0 1 s c).apply q) = d2 p q ∧
    d2 ((Mat.rotY 0 1 s c).apply p) ((Mat.rotY 0 1 s c).apply q) = d2 p q ∧
    d2 ((Mat.rotZ 0 1 s c).apply p) ((Mat.rotZ 0 1 s c).apply q) = d2 p q := by
  simp only [d2_eq_dot3]
  exact C13_rotation_angles s c h q p p

theorem C13_translation (x y z : R) (p : R × R × R) :
    (Mat.translation 0 1 x y z).apply p = (p.1 + x, p.2.1 + y, p.2.2 + z) := by
  obtain ⟨a, b, c⟩ := p
  simp [Mat.apply, Mat.translation, mulAdd]

/-- magnification scales (squared) distances by the (squared) factor -/
theorem C13_magnify (f : R) (p q : R × R × R) :
    d2 ((Mat.magnify 0 f).apply p) ((Mat.magnify 0 f).apply q) = f ^ 2 * d2 p q := by
  obtain ⟨x, y, z⟩ := p; obtain ⟨x', y', z'⟩ := q
  simp only [d2, Mat.apply, Mat.magnify, mulAdd]; ring

/-- `multiply_translation`: rotation part untouched, translation scaled component-wise (C17: the absolute
operators are the fractional ones with translations scaled by the cell edges) -/
theorem C13_multiply_translation (m : Mat R) (f : R × R × R) (p : R × R × R) :
    (m.multiplyTranslation f).apply p =
      ((m.apply p).1 - m.a03 + m.a03 * f.1, (m.apply p).2.1 - m.a13 + m.a13 * f.2.1,
       (m.apply p).2.2 - m.a23 + m.a23 * f.2.2) := by
  obtain ⟨x, y, z⟩ := p
  simp only [Mat.apply, Mat.multiplyTranslation, mulAdd, Prod.mk.injEq]
  refine ⟨?_, ?_, ?_⟩ <;> ring

/-- applying a transformation at structure level moves every contained atom exactly as applying it to that
atom alone, keeps the order, and touches nothing else (identifiers, shape, other atom fields) -/
theorem C13_apply_levels (m : Mat Int) (p : PDB) :
    (p.applyT m).atoms = p.atoms.map (Atom.move m) ∧
    (p.applyT m).conformers.map (fun c => (c.name, c.alt, c.modification, c.atoms.length)) =
      p.conformers.map (fun c => (c.name, c.alt, c.modification, c.atoms.length)) ∧
    (p.applyT m).residues.map Residue.rid = p.residues.map Residue.rid ∧
    (p.applyT m).chains.map (·.id) = p.chains.map (·.id) ∧
    (p.applyT m).models.map (·.serial) = p.models.map (·.serial) ∧
    (∀ a : Atom, (a.move m).serial = a.serial ∧ (a.move m).id = a.id ∧ (a.move m).name = a.name ∧
      (a.move m).occ = a.occ ∧ (a.move m).b = a.b ∧ (a.move m).element = a.element ∧
      (a.move m).charge = a.charge ∧ (a.move m).atf = a.atf ∧ (a.move m).hetero = a.hetero) := by
  refine ⟨?_, ?_, ?_, ?_, ?_, fun a => ⟨rfl, rfl, rfl, rfl, rfl, rfl, rfl, rfl, rfl⟩⟩
  all_goals simp only [PDB.atoms, PDB.conformers, PDB.residues, PDB.chains, Model.atoms, Model.conformers,
    Model.residues, Chain.atoms, Chain.conformers, Residue.atoms, PDB.applyT, Model.applyT, Chain.applyT,
    Residue.applyT, Conformer.applyT, List.flatMap_map, List.map_flatMap, List.map_map, Function.comp_def,
    List.length_map]
  all_goals rfl

/-- non-vacuity: quarter turn about z, then a shift -/
example : ((Mat.rotZ (0 : Int) 1 1 0).combine (Mat.translation 0 1 5 0 0)).apply (1, 0, 0) = (5, 1, 0) := by decide

end PdbModel
