/-
C07 — strictness level alone decides accept/reject, monotonically.
The statements are kept apart from the model (PdbModel/Level.lean). Monotonicity is proved for any two levels of which
one fails whatever the other fails (`passes_mono`, `gate_accept_mono`); C07Cif and C07Pdb rest on the same.
-/
import PdbModel.Level
namespace PdbModel

/-- The 15 entries of the table exactly as the property states them:
Strict: any diagnostic; Medium: anything above a general warning; Loose: anything above a loose warning. -/
theorem C07_fails_table (e : ErrorLevel) :
    e.fails .strict = true ∧
    (e.fails .medium = true ↔ e ≠ .generalWarning) ∧
    (e.fails .loose = true ↔ (e ≠ .generalWarning ∧ e ≠ .looseWarning)) := by
  cases e <;> simp [ErrorLevel.fails]

/-- Monotone: failing at a looser level implies failing at every stricter one. -/
theorem C07_fails_monotone (e : ErrorLevel) :
    (e.fails .loose = true → e.fails .medium = true) ∧
    (e.fails .medium = true → e.fails .strict = true) := by
  cases e <;> simp [ErrorLevel.fails]

/-- Rejected exactly when some diagnostic fails the level; a rejection list is never empty;
a returned value is accompanied only by non-failing diagnostics. -/
theorem C07_gate_iff {α δ} (lvl : δ → ErrorLevel) (s : Strictness) (v : α) (ds : List δ) :
    (gate lvl s v ds = .err ds ↔ ∃ d ∈ ds, (lvl d).fails s = true) ∧
    (gate lvl s v ds = .err ds → ds ≠ []) ∧
    (gate lvl s v ds = .ok v ds ↔ ∀ d ∈ ds, (lvl d).fails s = false) ∧
    (gate lvl s v ds = .err ds ∨ gate lvl s v ds = .ok v ds) := by
  unfold gate
  by_cases h : ds.any (fun d => (lvl d).fails s) = true
  · obtain ⟨d, hd, hf⟩ := List.any_eq_true.mp h
    rw [if_pos h]
    exact ⟨⟨fun _ => ⟨d, hd, hf⟩, fun _ => rfl⟩, fun _ => List.ne_nil_of_mem hd,
      ⟨(fun hc => nomatch hc), fun hall => absurd hf (Bool.eq_false_iff.mp (hall d hd))⟩, Or.inl rfl⟩
  · have hall : ∀ d ∈ ds, (lvl d).fails s = false := fun d hd =>
      Bool.eq_false_iff.mpr fun hf => h (List.any_eq_true.mpr ⟨d, hd, hf⟩)
    rw [if_neg h]
    exact ⟨⟨(fun hc => nomatch hc), fun ⟨d, hd, hf⟩ => absurd hf (Bool.eq_false_iff.mp (hall d hd))⟩,
      (fun hc => nomatch hc), ⟨fun _ => hall, fun _ => rfl⟩, Or.inr rfl⟩

theorem passes_mono {s t : Strictness} (hmono : ∀ e : ErrorLevel, e.fails t = true → e.fails s = true)
    {e : ErrorLevel} (h : e.fails s = false) : e.fails t = false :=
  Bool.eq_false_iff.mpr fun hf => Bool.eq_false_iff.mp h (hmono e hf)

theorem gate_accept_mono {α δ} (lvl : δ → ErrorLevel) (s t : Strictness)
    (hmono : ∀ e : ErrorLevel, e.fails t = true → e.fails s = true) (v : α) (ds : List δ)
    (h : gate lvl s v ds = .ok v ds) : gate lvl t v ds = .ok v ds := by
  rw [(C07_gate_iff lvl s v ds).2.2.1] at h
  rw [(C07_gate_iff lvl t v ds).2.2.1]
  exact fun d hd => passes_mono hmono (h d hd)

/-- Whatever the gate accepts at a stricter level it accepts at every looser level, with the very
same value (the same diagnostics being presented). -/
theorem C07_accept_monotone {α δ} (lvl : δ → ErrorLevel) (v : α) (ds : List δ) :
    (gate lvl .strict v ds = .ok v ds → gate lvl .medium v ds = .ok v ds) ∧
    (gate lvl .medium v ds = .ok v ds → gate lvl .loose v ds = .ok v ds) :=
  ⟨gate_accept_mono lvl .strict .medium (fun e => (C07_fails_monotone e).2) v ds,
   gate_accept_mono lvl .medium .loose (fun e => (C07_fails_monotone e).1) v ds⟩

/-- The validating savers create or truncate nothing when they refuse, and refuse exactly when
some validation diagnostic fails the level. -/
theorem C07_save_refuses_clean (fs : FS) (path : String) (s : Strictness)
    (diags : List ErrorLevel) (bytes : List Nat) :
    ((saveGated fs path s diags bytes).2 = false ↔ ∃ d ∈ diags, d.fails s = true) ∧
    ((saveGated fs path s diags bytes).2 = false → (saveGated fs path s diags bytes).1 = fs) ∧
    ((saveGated fs path s diags bytes).2 = true →
        (saveGated fs path s diags bytes).1 path = some bytes ∧
        ∀ q, q ≠ path → (saveGated fs path s diags bytes).1 q = fs q) := by
  unfold saveGated
  rcases (C07_gate_iff id s () diags).2.2.2 with h | h
  · have hex := (C07_gate_iff id s () diags).1.mp h
    rw [h]
    exact ⟨⟨fun _ => hex, fun _ => rfl⟩, fun _ => rfl, fun hc => (by cases hc)⟩
  · have hall := (C07_gate_iff id s () diags).2.2.1.mp h
    rw [h]
    refine ⟨⟨fun hc => (by cases hc), fun ⟨d, hd, hf⟩ => absurd hf (Bool.eq_false_iff.mp (hall d hd))⟩,
      fun hc => (by cases hc), fun _ => ⟨by simp [FS.write], ?_⟩⟩
    intro q hq; simp [FS.write, hq]

/-- non-vacuity: a concrete diagnostics list that is accepted at Loose, rejected at Medium -/
example : gate id .loose () [ErrorLevel.looseWarning, .generalWarning] = .ok () [.looseWarning, .generalWarning]
    ∧ gate id .medium () [ErrorLevel.looseWarning, .generalWarning] = .err [.looseWarning, .generalWarning] := by
  decide

end PdbModel
