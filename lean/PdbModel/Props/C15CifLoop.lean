/-
C15 — only-first-model on the atom_site loop (mmCIF reader model).  Row by row: the model number of the first row that
is kept becomes "the first model"; every later row with that number is processed exactly as without the option; every
row with another number changes nothing but the diagnostics (no atom, no model, no serial-number bookkeeping).  Over the
whole loop: the diagnostics a row leaves behind never influence what later rows do to the models, hence reading the
loop with the option gives the models of reading, with the option, only the rows of that model — and those rows are
processed exactly as without the option.
-/
import PdbModel.Lemmas.CifRow
namespace PdbModel

/-- the model number a row states (1 when the cell is absent or has no value) -/
def rowModelNumber (vals : List (Option CifValue)) : Nat := (colUsize ((vals[18]?).join)).val.getD 1

/-- **the first kept row fixes the model**: with no first model yet, the row is processed as without the option
and its model number is remembered -/
theorem C15_cif_first_model_first (s : AState) (vals : List (Option CifValue)) (h : s.firstModel = none) :
    atomRowCore true s vals = atomRowCore false { s with firstModel := some (rowModelNumber vals) } vals :=
  atomRowCore_first s vals h

/-- **rows of the first model are processed as without the option** -/
theorem C15_cif_first_model_same (s : AState) (vals : List (Option CifValue)) (f : Nat)
    (h : s.firstModel = some f) (hm : rowModelNumber vals = f) :
    atomRowCore true s vals = atomRowCore false s vals :=
  atomRowCore_same s vals f h hm

/-- **rows of any other model are skipped**: nothing but diagnostics of the model-number cell is kept -/
theorem C15_cif_first_model_skip (s : AState) (vals : List (Option CifValue)) (f : Nat)
    (h : s.firstModel = some f) (hm : rowModelNumber vals ≠ f) :
    (atomRowCore true s vals).models = s.models ∧ (atomRowCore true s vals).counts = s.counts ∧
    (atomRowCore true s vals).ids = s.ids ∧ (atomRowCore true s vals).dupIds = s.dupIds ∧
    (atomRowCore true s vals).firstModel = s.firstModel := by
  rw [atomRowCore_skip s vals f h hm]
  exact ⟨rfl, rfl, rfl, rfl, rfl⟩

/-- a parser state without its diagnostics -/
def AState.core (s : AState) : AState := { s with errors := [], exact := true }

/-- the two states agree apart from their diagnostics -/
def Rel (s t : AState) : Prop := s.core = t.core

/-- `relog` overwrites what `core` has cleared -/
theorem relog_of_rel {s t : AState} (h : Rel s t) : s.relog t.errors t.exact = t :=
  congrArg (·.relog t.errors t.exact) (h : s.core = t.core)

theorem LogBlind.rel {f : AState → AState} (hf : LogBlind f) {s t : AState} (h : Rel s t) : Rel (f s) (f t) := by
  obtain ⟨r, e, x, hr⟩ := hf s
  have ht := hr t.errors t.exact
  rw [relog_of_rel h] at ht
  rw [show f s = _ from hr s.errors s.exact, ht]
  rfl

theorem atomRowCore_rel (b : Bool) (vals : List (Option CifValue)) (s t : AState) (h : Rel s t) :
    Rel (atomRowCore b s vals) (atomRowCore b t vals) :=
  (atomRowCore_logBlind b vals).rel h

theorem atomRowCore_fm (b : Bool) (s : AState) (vals : List (Option CifValue)) (f : Nat) (h : s.firstModel = some f) :
    (atomRowCore b s vals).firstModel = some f := by
  have hstep := atomRowCore_step b vals s
  generalize atomRowCore b s vals = r at hstep ⊢
  cases hstep with
  | skipped => exact h
  | kept fm hfm hk =>
    rcases hfm with rfl | ⟨_, hnone, _⟩
    · cases hk <;> exact h
    · rw [hnone] at h; cases h

def firstOnly (o : ReadOpts) : ReadOpts := { o with onlyFirstModel := true }

theorem atomRow_rel (o : ReadOpts) (vals : List (Option CifValue)) (s t : AState) (h : Rel s t) :
    Rel (atomRow o s vals) (atomRow o t vals) := by
  unfold atomRow
  split
  · exact h
  · exact atomRowCore_rel _ vals s t h

theorem atomRow_fm (o : ReadOpts) (s : AState) (vals : List (Option CifValue)) (f : Nat) (h : s.firstModel = some f) :
    (atomRow o s vals).firstModel = some f := by
  unfold atomRow
  split
  · exact h
  · exact atomRowCore_fm _ s vals f h

theorem atomRow_skip (o : ReadOpts) (s : AState) (vals : List (Option CifValue)) (f : Nat)
    (h : s.firstModel = some f) (hn : rowModelNumber vals ≠ f) : Rel (atomRow (firstOnly o) s vals) s := by
  unfold atomRow
  split
  · rfl
  · show Rel (atomRowCore true s vals) s
    rw [atomRowCore_skip s vals f h hn]
    rfl

/-- **only-first-model over the whole loop**: once the first kept row has fixed the model number `f`, reading the
remaining rows with the option gives — apart from diagnostics — the state of reading only the rows that state model `f`;
in particular the same models, atom counts and atom-id bookkeeping -/
theorem C15_cif_first_model_loop (o : ReadOpts) (header : List (List Char)) (rows : List (List CifValue)) (s : AState)
    (f : Nat) (h : s.firstModel = some f) :
    Rel (rows.foldl (fun (s : AState) (row : List CifValue) => atomRow (firstOnly o) s (rowVals header row)) s)
      ((rows.filter fun row => rowModelNumber (rowVals header row) = f).foldl
        (fun (s : AState) (row : List CifValue) => atomRow (firstOnly o) s (rowVals header row)) s) := by
  rw [List.foldl_filter]
  -- the two runs keep the first model `f` and differ in their diagnostics only
  refine (List.foldl_rel (r := fun (a b : AState) => a.firstModel = some f ∧ Rel a b) ⟨h, rfl⟩
    fun row _ a b hab => ⟨atomRow_fm _ a _ f hab.1, ?_⟩).2
  split
  · exact atomRow_rel _ _ a b hab.2
  · next hk => exact (atomRow_skip o a _ f hab.1 (by simpa using hk)).trans hab.2

/-- … and the rows of model `f` are processed exactly as without the option (`C15_cif_first_model_same`) -/
theorem C15_cif_first_model_rows_as_without (o : ReadOpts) (s : AState) (vals : List (Option CifValue)) (f : Nat)
    (h : s.firstModel = some f) (hn : rowModelNumber vals = f) :
    atomRow (firstOnly o) s vals = atomRow { o with onlyFirstModel := false } s vals := by
  unfold atomRow firstOnly
  simp only
  split
  · rfl
  · exact C15_cif_first_model_same s vals f h hn

end PdbModel
