/-
C01 — PDB-format reading recovers exactly what the records state (theorems about the reader model
`PdbModel/PdbRead.lean`; the model is tied to the code by the correspondence on generated well-formed
texts and on every single-field corruption).
-/
import PdbModel.Lemmas.PdbRead
import PdbModel.Lemmas.Add
namespace PdbModel

/-- a field that produced no diagnostic IS the parsed text of its columns: the value is never the default -/
theorem C01_field_exact {α} (p : List Char → Option α) (dflt : α) (ln : Nat) (line : List Char) (a b : Nat) (v : α)
    (h : fieldW p dflt ln line a b = (v, [])) :
    b ≤ byteLen line ∧ ∃ f, getBytes line a b = some f ∧ p (trim f) = some v := by
  unfold fieldW at h
  -- of the three results only the parsed value comes without a diagnostic
  split at h
  · cases h
  · next hl =>
    split at h
    · next w hw =>
      cases h
      exact ⟨Nat.le_of_not_lt hl, Option.bind_eq_some_iff.mp hw⟩
    · cases h

/-- a missing or unparsable field yields the default together with an InvalidatingError (anchored to the line by
`lexLine`, which attaches the line being lexed to every lexer diagnostic) -/
theorem C01_field_default_flagged {α} (p : List Char → Option α) (dflt : α) (ln : Nat) (line : List Char) (a b : Nat)
    (h : byteLen line < b ∨ getBytes line a b = none ∨ ∃ f, getBytes line a b = some f ∧ p (trim f) = none) :
    ∃ d, fieldW p dflt ln line a b = (dflt, [d]) ∧ d.1 = ErrorLevel.invalidating := by
  unfold fieldW
  by_cases hl : byteLen line < b
  · exact ⟨tooShort ln line, by simp [hl], rfl⟩
  · simp only [hl, if_false]
    rcases h with h | h | ⟨f, hf, hp⟩
    · exact absurd h hl
    · exact ⟨invalidData ln line, by simp [h], rfl⟩
    · exact ⟨invalidData ln line, by simp [hf, hp], rfl⟩

/-- a successfully returned structure is accompanied only by diagnostics that do not fail the level; in
particular never by an InvalidatingError — so no record of it took a default for a numeric field -/
theorem C01_no_made_up_value (o : ReadOpts) (lines : List (List Char)) (f : PdbFile) (ds : List PDiag)
    (h : readPdb o lines = .ok f ds) :
    (∀ d ∈ ds, d.level.fails o.level = false) ∧ (∀ d ∈ ds, d.level ≠ .invalidating ∧ d.level ≠ .breaking) := by
  have key : ∀ d ∈ ds, d.level.fails o.level = false := ((readPdb_eq_ok o lines f ds).mp h).2
  refine ⟨key, fun d hd => ?_⟩
  have := key d hd
  constructor <;> intro hl <;> rw [hl] at this <;> revert this <;> cases o.level <;> decide

/-! The reader keeps the current model as an insertion-ordered map of chains, each an insertion-ordered map of
residues (`IndexMap` in the code, `assocUpsert` in the model), and adds the atom to the residue with
`Residue::add_atom`. -/

/-- **one chain per chain id, in order of first appearance**: whatever ATOM/HETATM records are placed into
the current model, its chain ids are the distinct chain ids of the records in their order of first
appearance (`dedupK` = keep the first occurrence) -/
theorem C01_chains_first_appearance (ops : List (String × ResId × (Option Residue → Residue))) :
    (ops.foldl (fun m o => upsertChain m o.1 o.2.1 o.2.2) []).map Prod.fst = dedupK (ops.map (·.1)) := by
  unfold upsertChain
  rw [keys_foldl_assocUpsert (key := fun o : String × ResId × (Option Residue → Residue) => o.1)
    (g := fun o rs? => assocUpsert (rs?.getD []) o.2.1 o.2.2)]
  unfold dedupK
  simp only [List.map_nil]
  rw [List.foldl_map]

/-- … and no chain id occurs twice -/
theorem C01_chain_ids_distinct (ops : List (String × ResId × (Option Residue → Residue))) :
    ((ops.foldl (fun m o => upsertChain m o.1 o.2.1 o.2.2) []).map Prod.fst).Nodup := by
  rw [C01_chains_first_appearance, dedupK_eq]
  exact Grp.nodup_dedup _

/-- **one residue per (number, insertion code)** inside a chain: placing an atom keeps the residue keys of
every chain free of repetitions -/
theorem C01_residue_ids_distinct (m : ChainMap) (cid : String) (key : ResId) (f : Option Residue → Residue)
    (h : ∀ c ∈ m, (c.2.map Prod.fst).Nodup) : ∀ c ∈ upsertChain m cid key f, (c.2.map Prod.fst).Nodup :=
  assocUpsert_forall (fun rs : List (ResId × Residue) => (rs.map Prod.fst).Nodup) _
    (fun rs hrs => by rw [Option.getD_some, keys_assocUpsert]; exact nodup_snoc_if _ key hrs)
    (by simp [assocUpsert]) m cid h

/-- **one conformer per (residue name, alternate location)**: `Residue::add_atom` as the reader calls it keeps
the conformer identifiers distinct and appends the atom to the conformer with that identifier -/
theorem C01_conformer_ids_distinct (r : Residue) (a : Atom) (name : String) (alt : Option String)
    (h : (r.conformers.map Conformer.cid).Nodup) :
    ((r.addAtomRaw a name alt).conformers.map Conformer.cid).Nodup := by
  unfold Residue.addAtomRaw Residue.addAtomN
  exact nodup_upsertC Conformer.cid Conformer.empty (Conformer.push a) (fun _ => rfl) (fun _ => rfl) _ _ h

/-- the reader's bookkeeping over a run of records: (last column value, offset) and the internal numbers -/
def wrapRun (top : Nat) : (Nat × Nat) → List Nat → List Nat
  | _, [] => []
  | (last, add), s :: rest =>
    let add' := wrapAddN top last add s
    (s + add') :: wrapRun top (s, add') rest

/-- one record further: the offset is again the multiple of `top + 1` below the number -/
theorem wrapAddN_succ (top n : Nat) :
    wrapAddN top (n % (top + 1)) (n / (top + 1) * (top + 1)) ((n + 1) % (top + 1)) = (n + 1) / (top + 1) * (top + 1) := by
  unfold wrapAddN
  by_cases h0 : (n + 1) % (top + 1) = 0
  · -- the column value wraps to 0 exactly after `top`
    rw [Nat.succ_div_of_dvd (Nat.dvd_of_mod_eq_zero h0), Nat.add_mul, Nat.one_mul, h0,
      Nat.succ_mod_succ_eq_zero_iff.mp h0]
    exact if_pos (by simp)
  · rw [Nat.succ_div_of_not_dvd (mt Nat.mod_eq_zero_of_dvd h0), if_neg (by simp [h0])]

/-- **wrapped serial numbers count on**: if consecutive records carry `n mod (top+1)` for consecutive `n`
(what a writer limited to the column width produces), the reader's internal numbers are `n` again — for the
atom serial column (`top = 99999`) and any length of run -/
theorem C01_serial_wrap (top : Nat) (n k : Nat) :
    wrapRun top (n % (top + 1), n / (top + 1) * (top + 1))
      ((List.range' (n + 1) k).map (· % (top + 1))) = List.range' (n + 1) k := by
  induction k generalizing n with
  | zero => rfl
  | succ k ih =>
    rw [List.range'_succ, List.map_cons, wrapRun]
    simp only [wrapAddN_succ, ih (n + 1), Nat.mod_add_div']

/-- the atom serial column: records …, 99998, 99999, 0, 1, … are read as …, 99998, 99999, 100000, 100001, … -/
example : wrapRun 99999 (99998, 0) [99999, 0, 1, 2] = [99999, 100000, 100001, 100002] := by decide

/-! Residue numbers that wrapped past 9999 keep counting upward, for any number of wraps.  The reader keeps the last
COLUMN value (not the internal number) next to the offset, so the wrap test fires at every 9999 → 0 step.  The statement
is the one of `C01_serial_wrap`, carried over to the signed arithmetic the residue numbers use. -/

/-- the reader's bookkeeping over a run of residue numbers (signed, as in the code) -/
def wrapRunI (top : Int) : (Int × Int) → List Int → List Int
  | _, [] => []
  | (last, add), s :: rest =>
    let add' := wrapAddI top last add s
    (s + add') :: wrapRunI top (s, add') rest

theorem wrapAddI_cast (top last add serial : Nat) :
    wrapAddI (top : Int) (last : Int) (add : Int) (serial : Int) = ((wrapAddN top last add serial : Nat) : Int) := by
  unfold wrapAddI wrapAddN
  simp only [Bool.and_eq_true, beq_iff_eq, Int.natCast_eq_zero, Int.natCast_inj]
  split <;> simp

theorem wrapRunI_cast (top : Nat) (last add : Nat) (l : List Nat) :
    wrapRunI (top : Int) ((last : Int), (add : Int)) (l.map (fun (i : Nat) => (i : Int))) =
      (wrapRun top (last, add) l).map (fun (i : Nat) => (i : Int)) := by
  induction l generalizing last add with
  | nil => rfl
  | cons s rest ih =>
    simp only [List.map_cons, wrapRunI, wrapRun, wrapAddI_cast, ih, Int.natCast_add]

/-- **wrapped residue numbers count on, however often they wrap**: consecutive residues written as `n mod 10000`
(for any start `n ≥ 0` and any length of run, so through any number of 9999 → 0 steps) are read back as `n` -/
theorem C01_residue_wrap (n k : Nat) :
    wrapRunI 9999 (((n % 10000 : Nat) : Int), ((n / 10000 * 10000 : Nat) : Int))
      ((List.range' (n + 1) k).map (fun (i : Nat) => ((i % 10000 : Nat) : Int))) =
    (List.range' (n + 1) k).map (fun (i : Nat) => (i : Int)) := by
  have hc := wrapRunI_cast 9999 (n % 10000) (n / 10000 * 10000) ((List.range' (n + 1) k).map (· % 10000))
  rw [List.map_map] at hc
  exact hc.trans (congrArg _ (C01_serial_wrap 9999 n k))

/-- non-vacuity: 19998, 19999, 20000, 20001 are written 9998, 9999, 0, 1 and read back — the second wrap of a chain -/
example : wrapRunI 9999 (9997, 10000) [9998, 9999, 0, 1] = [19998, 19999, 20000, 20001] := by decide

/-- **the shared atom's occupancy is split, not multiplied**: an atom without alternate location that is copied
into the `k` labelled conformers of its residue carries `occ / k` in each; whenever that division is exact (the
model's exactness flag) the copies add up to the original occupancy -/
theorem C01_shared_occupancy_sum (occ : Int) (k : Nat) (hk : 0 < k) (hex : occ % (k : Int) = 0) :
    ((List.replicate k (occ / (k : Int))).sum) = occ := by
  rw [List.sum_replicate_int]
  exact Int.mul_ediv_cancel' (Int.dvd_of_emod_eq_zero hex)

end PdbModel
