/-
C15 on the PDB reader model: discard-hydrogens is a pure filter.  Reading with the option set gives the same
structure (hierarchy, metadata, exactness flag) as reading, without the option, the text in which every hydrogen
record (an ATOM / HETATM line whose element field reads `H`) has been blanked out.  Blanking rather than deleting
keeps the line numbers, so the statement is exact for every other record; a blank line is lexed as nothing.
Only the diagnostics differ: a hydrogen record with an unreadable field still reports that field.
-/
import PdbModel.Lemmas.PdbRead
namespace PdbModel

def isHLine (o : ReadOpts) (ln : Nat) (line : List Char) : Bool :=
  match lexLine line ln o.level o.onlyAtomicCoords with
  | .ok (.atom _ _ _ _ _ _ _ _ _ _ _ _ _ element _, _) => element == ['H']
  | _ => false

def withH (o : ReadOpts) (b : Bool) : ReadOpts := { o with discardHydrogens := b }

def LexItem.isH : LexItem → Bool
  | .atom _ _ _ _ _ _ _ _ _ _ _ _ _ element _ => element == ['H']
  | _ => false

theorem isHLine_eq (o : ReadOpts) (ln : Nat) (line : List Char) :
    isHLine o ln line = match lexLine line ln o.level o.onlyAtomicCoords with | .ok p => p.1.isH | .error _ => false := by
  unfold isHLine
  cases lexLine line ln o.level o.onlyAtomicCoords with
  | error e => rfl
  | ok p => obtain ⟨item, _⟩ := p; cases item <;> rfl

theorem stepItem_discard (o : ReadOpts) (s : PState) (ctx : Nat × List Char) (item : LexItem) :
    (stepItem (withH o true) s ctx item).1 = if item.isH then s else (stepItem (withH o false) s ctx item).1 := by
  cases item
  case atom element _ =>
    cases h : element == ['H']
    · simp only [stepItem, withH, LexItem.isH, h, Bool.and_false, Bool.false_eq_true, if_false]
    · simp only [stepItem, withH, LexItem.isH, h, Bool.and_true, if_true]
  all_goals rfl

theorem lexLine_nil (ln : Nat) (lvl : Strictness) (oa : Bool) : lexLine [] ln lvl oa = .ok (.empty, []) := rfl

theorem stepLine_discard (o : ReadOpts) (s : PState) (ln : Nat) (line : List Char) :
    (stepLine (withH o true) s ln line).noErr =
      (if isHLine o ln line then s.noErr else (stepLine (withH o false) s ln line).noErr) := by
  have hl (b) : lexLine line ln (withH o b).level (withH o b).onlyAtomicCoords =
      lexLine line ln o.level o.onlyAtomicCoords := rfl
  rw [stepLine_proj PState.noErr fun _ _ => rfl, stepLine_proj PState.noErr fun _ _ => rfl, isHLine_eq, hl, hl]
  cases lexLine line ln o.level o.onlyAtomicCoords with
  | error e => rfl
  | ok p =>
    simp only [stepItem_discard]
    cases p.1.isH
    · rfl
    · split <;> rfl

theorem stepLine_blank (o : ReadOpts) (s : PState) (ln : Nat) : (stepLine o s ln []).noErr = s.noErr := by
  rw [stepLine_proj PState.noErr fun _ _ => rfl, lexLine_nil]
  split <;> rfl

/-- the text with its hydrogen records blanked out (line numbers are kept) -/
def blankH (o : ReadOpts) (lines : List (List Char)) : List (List Char) :=
  ((List.range lines.length).zip lines).map fun il => if isHLine o (il.1 + 1) il.2 then [] else il.2

theorem zip_map_zip {α β γ} (h : α × β → γ) (xs : List α) (ys : List β) :
    xs.zip ((xs.zip ys).map h) = (xs.zip ys).map fun p => (p.1, h p) := by
  induction xs generalizing ys with
  | nil => rfl
  | cons x xs ih =>
    cases ys with
    | nil => rfl
    | cons y ys => simp only [List.zip_cons_cons, List.map_cons, ih]

theorem parseLines_discard (o : ReadOpts) (lines : List (List Char)) :
    (parseLines (withH o true) lines).noErr = (parseLines (withH o false) (blankH o lines)).noErr := by
  unfold parseLines blankH
  rw [List.length_map, List.length_zip, List.length_range, Nat.min_self, zip_map_zip, List.foldl_map]
  refine List.foldl_rel (r := fun s s' : PState => s.noErr = s'.noErr) rfl fun il _ s s' h => ?_
  rw [stepLine_discard]
  split
  · rw [stepLine_blank, h]
  · rw [stepLine_noErr, h, ← stepLine_noErr]

/-- **discard-hydrogens is a pure filter** (PDB reader): the structure read with the option set is the structure
read without it from the text whose hydrogen records are blanked out; in particular whether the input is
the hierarchy, every atom, the metadata and the bonds agree -/
theorem C15_pdb_discard_hydrogens (o : ReadOpts) (lines : List (List Char)) :
    (readPdbCore (withH o true) lines).1 = (readPdbCore (withH o false) (blankH o lines)).1 :=
  readPdbCore_file _ _ _ _ (parseLines_discard o lines)

/-- a text without hydrogen records is read the same with and without the option -/
theorem C15_pdb_discard_nothing_to_discard (o : ReadOpts) (lines : List (List Char))
    (h : ∀ il ∈ (List.range lines.length).zip lines, isHLine o (il.1 + 1) il.2 = false) :
    (readPdbCore (withH o true) lines).1 = (readPdbCore (withH o false) lines).1 := by
  rw [C15_pdb_discard_hydrogens]
  congr 2
  unfold blankH
  rw [List.map_congr_left (g := Prod.snd) fun il hil => if_neg (Bool.eq_false_iff.mp (h il hil))]
  exact List.map_snd_zip (Nat.le_of_eq List.length_range.symm)

/-- non-vacuity: a hydrogen record is recognised, a carbon record is not -/
example : isHLine {} 1 "ATOM      1  H   ALA A   1       1.000   2.000   3.000  1.00 10.00           H  ".toList = true ∧
    isHLine {} 2 "ATOM      2  CA  ALA A   1       1.000   2.000   3.000  1.00 10.00           C  ".toList = false := by
  decide +kernel

end PdbModel
