/-
C16 — reading the same text twice gives the same diagnostics: the SEQRES data are collected in a hash map, whose
iteration order differs from run to run; the checks visit the chains in the order of their ids instead, so whatever
order the map hands the chains out in, the same chains are checked in the same order.
-/
import PdbModel.PdbRead
namespace PdbModel

def keyLe {α} (a b : Char × α) : Prop := a.1.toNat ≤ b.1.toNat

theorem insertByKey_perm {α} (x : Char × α) (l : List (Char × α)) : (insertByKey x l).Perm (x :: l) := by
  induction l with
  | nil => exact List.Perm.refl _
  | cons y r ih =>
    unfold insertByKey
    split
    · exact List.Perm.refl _
    · exact (List.Perm.cons y ih).trans (List.Perm.swap x y r)

theorem insertByKey_sorted {α} (x : Char × α) (l : List (Char × α)) (h : l.Pairwise keyLe) :
    (insertByKey x l).Pairwise keyLe := by
  induction l with
  | nil => exact List.pairwise_singleton _ _
  | cons y r ih =>
    unfold insertByKey
    split
    · next hxy =>
      refine List.Pairwise.cons ?_ h
      intro z hz
      rcases List.mem_cons.mp hz with rfl | hz
      · exact hxy
      · exact Nat.le_trans hxy ((List.pairwise_cons.mp h).1 z hz)
    · next hxy =>
      refine List.Pairwise.cons ?_ (ih (List.pairwise_cons.mp h).2)
      intro z hz
      rcases List.mem_cons.mp ((insertByKey_perm x r).subset hz) with rfl | hz
      · unfold keyLe; omega
      · exact (List.pairwise_cons.mp h).1 z hz

theorem sortByKey_perm {α} (l : List (Char × α)) : (sortByKey l).Perm l := by
  induction l with
  | nil => exact List.Perm.refl _
  | cons x r ih =>
    unfold sortByKey
    rw [List.foldr_cons]
    exact (insertByKey_perm x _).trans (List.Perm.cons x ih)

theorem sortByKey_sorted {α} (l : List (Char × α)) : (sortByKey l).Pairwise keyLe :=
  List.foldrRecOn l insertByKey (motive := List.Pairwise keyLe) .nil fun acc h x _ => insertByKey_sorted x acc h

theorem eq_of_nodup_map {α β} (f : α → β) (l : List α) (hd : (l.map f).Nodup) (a b : α) (ha : a ∈ l) (hb : b ∈ l)
    (h : f a = f b) : a = b :=
  List.Pairwise.forall_of_forall_of_flip (R := fun a b => f a = f b → a = b) (fun _ _ _ => rfl)
    (hd.of_map f fun _ _ hne h => absurd h hne) (hd.of_map f fun _ _ hne h => absurd h.symm hne) ha hb h

/-- **the order in which the map hands out the chains does not matter**: two listings of the same SEQRES data (one
entry per chain id) are visited in the same order -/
theorem C16_seqres_visit_order_fixed {α} (l1 l2 : List (Char × α)) (hp : l1.Perm l2)
    (hd : (l1.map (·.1)).Nodup) : sortByKey l1 = sortByKey l2 := by
  apply List.Perm.eq_of_pairwise (le := keyLe) _ (sortByKey_sorted l1) (sortByKey_sorted l2)
    ((sortByKey_perm l1).trans (hp.trans (sortByKey_perm l2).symm))
  intro a b ha hb hab hba
  -- equal keys: the same entry, because the ids are distinct
  have ha1 : a ∈ l1 := (sortByKey_perm l1).subset ha
  have hb1 : b ∈ l1 := hp.symm.subset ((sortByKey_perm l2).subset hb)
  have hk : a.1 = b.1 := by
    unfold keyLe at hab hba
    exact Char.toNat_inj.mp (Nat.le_antisymm hab hba)
  exact eq_of_nodup_map (·.1) l1 hd a b ha1 hb1 hk

/-- … hence the SEQRES checks give the same structure and the same diagnostics for both listings -/
theorem C16_seqres_checks_deterministic (p : PDB) (dbrefs : List (Nat × DbRef))
    (l1 l2 : List (Char × List (Nat × Nat × List (List Char)))) (lines : List (Nat × List Char))
    (hp : l1.Perm l2) (hd : (l1.map (·.1)).Nodup) :
    validateSeqres p dbrefs l1 lines = validateSeqres p dbrefs l2 lines := by
  unfold validateSeqres
  rw [C16_seqres_visit_order_fixed l1 l2 hp hd]

end PdbModel
