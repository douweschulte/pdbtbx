/-
C12 — structured search selects exactly the atoms for which the expression is true
(three-valued, unknown selects), at all five entry points, in traversal order.
All theorems are generic in the term type `T` and in the matchers of the five levels, hence hold for
every term kind at once; `Term` with the concrete matchers of pdbtbx is one instance (corollaries below).
-/
import PdbModel.Lemmas.Search
import PdbModel.Lemmas.List
namespace PdbModel
variable {T : Type}

/-- `simplify` never changes the three-valued meaning, under any valuation. -/
theorem C12_simplify_sound (v : T → Option Bool) (s : Search T) :
    s.simplify.eval3 v = s.eval3 v := simplify_sound v s

/-- Adding one level's information = evaluating with that level's answers taking precedence. -/
theorem C12_add_info (m v : T → Option Bool) (s : Search T) :
    (s.addInfo m).eval3 v = s.eval3 (orElse m v) := addInfo_sound m v s

/-- After the last level, `complete` is exactly the Kleene value (`none` = unknown). -/
theorem C12_complete_eq_eval3 (m : T → Option Bool) (s : Search T) :
    (s.addInfo m).complete = (s.eval3 m).toOpt := complete_eq_eval3 m s

/-- Pruning is sound: an expression that is already `Known(false)` is false for every atom below. -/
theorem C12_prune_sound (s : Search T) (h : s.isKnownFalse = true) (v : T → Option Bool) :
    selected v s = false := by
  unfold selected; rw [isKnownFalse_eval s h v]; rfl

section
variable (mM : Model → T → Option Bool) (mC : Chain → T → Option Bool)
  (mR : Residue → T → Option Bool) (mF : Conformer → T → Option Bool) (mA : Atom → T → Option Bool)

/-- valuations from a hierarchy tuple: the outermost level present answers first -/
def valAC (h : HAC) : T → Option Bool := orElse (mF h.conformer) (mA h.atom)
def valACR (h : HACR) : T → Option Bool := orElse (mR h.residue) (valAC mF mA h.toHAC)
def valACRC (h : HACRC) : T → Option Bool := orElse (mC h.chain) (valACR mR mF mA h.toHACR)
def valACRCM (h : HACRCM) : T → Option Bool := orElse (mM h.model) (valACRC mC mR mF mA h.toHACRC)

theorem C12_find_conformer (s : Search T) (c : Conformer) :
    Conformer.findG mA s c = c.atoms.filter (fun a => selected (mA a) s) := by
  unfold Conformer.findG
  congr 1; funext a; exact complete_getD (mA a) s

/-- one level of pruned descent equals the unpruned filter of the walk with the merged valuation -/
theorem level_step {X H H' : Type} (children : List X) (mX : X → T → Option Bool) (s : Search T)
    (findBelow : Search T → X → List H) (allBelow : X → List H) (valBelow : H → T → Option Bool)
    (ext : X → H → H') (val : H' → T → Option Bool)
    (hval : ∀ x h, val (ext x h) = orElse (mX x) (valBelow h))
    (hbelow : ∀ s' x, findBelow s' x = (allBelow x).filter (fun h => selected (valBelow h) s')) :
    ((children.map fun x => (x, s.addInfo (mX x))).filter (fun p => !p.2.isKnownFalse)).flatMap
        (fun p => (findBelow p.2 p.1).map (ext p.1))
      = (children.flatMap fun x => (allBelow x).map (ext x)).filter (fun h => selected (val h) s) := by
  have hsel : ∀ x h, selected (val (ext x h)) s = selected (valBelow h) (s.addInfo (mX x)) := by
    intro x h
    unfold selected
    rw [hval, addInfo_sound]
  rw [List.filter_flatMap]
  apply prune_flatMap
  · intro x _ _
    simp only [hbelow, List.filter_map, Function.comp_def, hsel]
  · intro x _ hk
    -- a child pruned as `Known(false)` has no selected tuple below it
    rw [List.filter_map, List.filter_eq_nil_iff.mpr, List.map_nil]
    intro h _
    rw [Function.comp, hsel, C12_prune_sound _ (by simpa using hk)]
    decide

theorem C12_find_residue (s : Search T) (r : Residue) :
    Residue.findG mF mA s r = r.withHAC.filter (fun h => selected (valAC mF mA h) s) :=
  level_step r.conformers mF s (Conformer.findG mA) (·.atoms) mA (fun c a => (⟨a, c⟩ : HAC)) (valAC mF mA)
    (fun _ _ => rfl) (C12_find_conformer mA)

theorem C12_find_chain (s : Search T) (c : Chain) :
    Chain.findG mR mF mA s c = c.withHACR.filter (fun h => selected (valACR mR mF mA h) s) :=
  level_step c.residues mR s (Residue.findG mF mA) (·.withHAC) (valAC mF mA)
    (fun r h => ({ toHAC := h, residue := r } : HACR)) (valACR mR mF mA) (fun _ _ => rfl) (C12_find_residue mF mA)

theorem C12_find_model (s : Search T) (m : Model) :
    Model.findG mC mR mF mA s m = m.withHACRC.filter (fun h => selected (valACRC mC mR mF mA h) s) :=
  level_step m.chains mC s (Chain.findG mR mF mA) (·.withHACR) (valACR mR mF mA)
    (fun c h => ({ toHACR := h, chain := c } : HACRC)) (valACRC mC mR mF mA) (fun _ _ => rfl)
    (C12_find_chain mR mF mA)

/-- The structure-level `find`: for every expression tree and every structure, the tuples returned, in
traversal order, are exactly the atoms-with-hierarchy whose three-valued value is not false. -/
theorem C12_find_eq_filter (s : Search T) (p : PDB) :
    PDB.findG mM mC mR mF mA s p = p.withH.filter (fun h => selected (valACRCM mM mC mR mF mA h) s) :=
  level_step p.models mM s (Model.findG mC mR mF mA) (·.withHACRC) (valACRC mC mR mF mA)
    (fun m h => ({ toHACRC := h, model := m } : HACRCM)) (valACRCM mM mC mR mF mA) (fun _ _ => rfl)
    (C12_find_model mC mR mF mA)
end

/-- instance for pdbtbx's terms and matchers -/
theorem C12_find_eq_filter_pdbtbx (s : Search Term) (p : PDB) :
    p.find s = p.withH.filter (fun h =>
      selected (valACRCM matchModel matchChain matchResidue matchConformer matchAtom h) s) := by
  unfold PDB.find
  exact C12_find_eq_filter matchModel matchChain matchResidue matchConformer matchAtom s p

/-- the three-valued rule of the statement: an element term on an atom without element is unknown,
and an unknown overall result selects the atom -/
example : selected (matchAtom { (default : Atom) with element := 0 }) (Search.single (Term.element 6)) = true := by
  decide
example : selected (matchAtom { (default : Atom) with element := 7 }) (Search.single (Term.element 6)) = false := by
  decide
example : selected (matchAtom { (default : Atom) with element := 0 })
    (Search.ops .and (Search.single (Term.element 6)) (Search.single (.atomSerial 5))) = false := by
  decide

end PdbModel
