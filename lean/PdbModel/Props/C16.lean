/-
C16 — copies are observationally equal (bonds included); atom identities stay unique under every schedule.
-/
import PdbModel.Identity
import PdbModel.Lemmas.List
namespace PdbModel

theorem runSchedule_ids (c : Nat) (sched : List Nat) :
    (runSchedule c sched).1.map (·.2) = List.range' c sched.length ∧ (runSchedule c sched).2 = c + sched.length := by
  induction sched generalizing c with
  | nil => simp [runSchedule]
  | cons t rest ih =>
    obtain ⟨h1, h2⟩ := ih (c + 1)
    simp only [runSchedule, fetchAdd, List.map_cons, List.length_cons, List.range'_succ, h1, h2]
    exact ⟨trivial, by omega⟩

/-- For every interleaving of any number of threads' creations and clones (a schedule is any list of thread
ids), the identities handed out are pairwise distinct, all at least the initial counter (so distinct from
every earlier atom, whose identity is below it), and the counter ends above all of them. -/
theorem C16_identities_distinct (c : Nat) (sched : List Nat) :
    ((runSchedule c sched).1.map (·.2)).Nodup ∧
    (∀ p ∈ (runSchedule c sched).1, c ≤ p.2 ∧ p.2 < (runSchedule c sched).2) := by
  obtain ⟨h1, h2⟩ := runSchedule_ids c sched
  refine ⟨by rw [h1]; exact List.nodup_range', ?_⟩
  intro p hp
  have : p.2 ∈ (runSchedule c sched).1.map (·.2) := List.mem_map.mpr ⟨p, hp, rfl⟩
  rw [h1, List.mem_range'_1] at this
  rw [h2]; omega

/-- atomicity is what the theorem rests on: with a separate load and store two threads obtain the same
identity under the schedule load₀ load₁ store₀ store₁ -/
theorem C16_racy_counter_duplicates :
    runRacy 7 (fun _ => 0) [(0, false), (1, false), (0, true), (1, true)] = [(0, 7), (1, 7)] := by decide

theorem posOf_eq (l : List Nat) (u : Nat) : posOf l u = l.findIdx? (· == u) := by
  unfold posOf; split <;> simp [*]

theorem posOf_range' (c n i : Nat) (h : i < n) : posOf (List.range' c n) (c + i) = some i := by
  rw [posOf_eq, findIdx?_beq_of_nodup List.nodup_range' (k := i) (by simp [h])]

theorem posOf_lt (l : List Nat) (u i : Nat) (h : posOf l u = some i) : i < l.length :=
  (List.getElem?_eq_some_iff.mp (getElem?_of_findIdx?_beq (posOf_eq l u ▸ h))).1

theorem posOf_of_mem (l : List Nat) (u : Nat) (h : u ∈ l) : ∃ i, posOf l u = some i := by
  rw [posOf_eq, ← Option.isSome_iff_exists, List.findIdx?_isSome]
  exact List.any_eq_true.mpr ⟨u, h, beq_self_eq_true u⟩

theorem mapM_isSome {α β} (f : α → Option β) (l : List α) (h : ∀ x ∈ l, (f x).isSome = true) :
    (l.mapM f).isSome = true := by
  induction l with
  | nil => rfl
  | cons x xs ih =>
    obtain ⟨y, hy⟩ := Option.isSome_iff_exists.mp (h x (by simp))
    obtain ⟨ys, hys⟩ := Option.isSome_iff_exists.mp (ih fun z hz => h z (by simp [hz]))
    simp [List.mapM_cons, hy, hys]

/-- every bond end is the identity of an atom of the structure -/
def WellBonded (p : IPdb) : Prop := ∀ b ∈ p.bonds, b.1 ∈ p.uids ∧ b.2.1 ∈ p.uids

theorem resolve_eq (p : IPdb) :
    p.resolve = p.bondsByPosition.mapM (fun x => do
      let i ← x.1
      let j ← x.2.1
      pure (i, j, x.2.2)) := by
  unfold IPdb.resolve IPdb.bondsByPosition
  rw [List.mapM_map]
  rfl

/-- listing bonds never fails on a structure whose bonds were created on its own atoms -/
theorem C16_bonds_never_fail (p : IPdb) (h : WellBonded p) : p.resolve.isSome = true := by
  refine mapM_isSome _ _ fun b hb => ?_
  obtain ⟨i, hi⟩ := posOf_of_mem _ _ (h b hb).1
  obtain ⟨j, hj⟩ := posOf_of_mem _ _ (h b hb).2
  simp [hi, hj]

/-- the bond list of a clone resolves to exactly the atoms (positions) the original's resolves to; the clone
is again well bonded, so listing its bonds does not fail either -/
theorem C16_clone_bonds (p : IPdb) (c : Nat) (h : WellBonded p) :
    (p.clone c).1.resolve = p.resolve ∧ WellBonded (p.clone c).1 ∧
    (p.clone c).1.bondsByPosition = p.bondsByPosition := by
  have remap_ok : ∀ u ∈ p.uids, ∃ i, posOf p.uids u = some i ∧
      posOf (List.range' c p.uids.length) (c + i) = some i ∧ c + i ∈ List.range' c p.uids.length := by
    intro u hu
    obtain ⟨i, hi⟩ := posOf_of_mem _ _ hu
    have hlt := posOf_lt _ _ _ hi
    exact ⟨i, hi, posOf_range' c _ i hlt, by rw [List.mem_range'_1]; omega⟩
  have hpos : (p.clone c).1.bondsByPosition = p.bondsByPosition := by
    unfold IPdb.bondsByPosition IPdb.clone
    rw [List.map_map]
    refine List.map_congr_left fun b hb => ?_
    obtain ⟨i, hi, hi', _⟩ := remap_ok _ (h b hb).1
    obtain ⟨j, hj, hj', _⟩ := remap_ok _ (h b hb).2
    simp only [Function.comp, hi, hj, hi', hj']
  refine ⟨by rw [resolve_eq, resolve_eq, hpos], fun b hb => ?_, hpos⟩
  unfold IPdb.clone at hb ⊢
  obtain ⟨b, hm, rfl⟩ := List.mem_map.mp hb
  obtain ⟨i, hi, _, hi'⟩ := remap_ok _ (h b hm).1
  obtain ⟨j, hj, _, hj'⟩ := remap_ok _ (h b hm).2
  simp only [hi, hj]
  exact ⟨hi', hj'⟩

theorem mem_of_bind_getElem? {l : List Nat} {i : Option Nat} {a : Nat} (h : i.bind (l[·]?) = some a) : a ∈ l := by
  obtain ⟨_, _, h'⟩ := Option.bind_eq_some_iff.mp h
  exact List.mem_of_getElem? h'

/-- a bond added through a successful lookup records exactly the identities of those two atoms, so it
resolves to those two atoms; a failed lookup changes nothing -/
theorem C16_add_bond (p : IPdb) (i j : Option Nat) (k : Nat) (hw : WellBonded p) :
    ((p.addBond i j k).2 = false → (p.addBond i j k).1 = p) ∧
    ((p.addBond i j k).2 = true → ∃ a b, i.bind (p.uids[·]?) = some a ∧ j.bind (p.uids[·]?) = some b ∧
      (p.addBond i j k).1 = { p with bonds := p.bonds ++ [(a, b, k)] }) ∧
    WellBonded (p.addBond i j k).1 := by
  unfold IPdb.addBond
  cases ha : i.bind (p.uids[·]?) with
  | none => exact ⟨fun _ => rfl, fun h => (by cases h), hw⟩
  | some a =>
    cases hb : j.bind (p.uids[·]?) with
    | none => exact ⟨fun _ => rfl, fun h => (by cases h), hw⟩
    | some b =>
      refine ⟨fun h => (by cases h), fun _ => ⟨a, b, rfl, rfl, rfl⟩, ?_⟩
      intro x hx
      simp only [List.mem_append, List.mem_singleton] at hx
      rcases hx with hx | rfl
      · exact hw x hx
      · exact ⟨mem_of_bind_getElem? ha, mem_of_bind_getElem? hb⟩

/-- the copy made by a field-wise (derived) clone keeps the old identities in its bond table: listing its
bonds fails — the behaviour of the code before the repair -/
example : (IPdb.cloneVerbatim ⟨[0, 1], [(0, 1, 0)]⟩ 2).1.resolve = none ∧
    (IPdb.clone ⟨[0, 1], [(0, 1, 0)]⟩ 2).1.resolve = some [(0, 1, 0)] := by decide

/-- non-vacuity of `WellBonded` -/
example : WellBonded ⟨[5, 9, 11], [(9, 5, 1), (11, 11, 0)]⟩ := by
  intro b hb; simp at hb; rcases hb with rfl | rfl <;> simp

end PdbModel
