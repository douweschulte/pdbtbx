/-
C15 — only-first-model on the PDB reader, line by line.  The option matters at exactly one place: a MODEL record
that follows a non-empty model stops the reading.  Until then the reader does what it does without the option; from
then on nothing changes any more; and without the option the models finished so far are never touched again.  Hence
the models read with the option are the first models read without it (`C15_pdb_first_model_is_prefix`), and when no
second model follows, the two reads are the same (`C15_pdb_first_model_no_stop`).
-/
import PdbModel.Lemmas.PdbRead
namespace PdbModel

def withFirst (o : ReadOpts) (b : Bool) : ReadOpts := { o with onlyFirstModel := b }

/-- once stopped, always stopped and nothing moves -/
theorem C15_pdb_stopped_is_final (o : ReadOpts) (s : PState) (ln : Nat) (line : List Char) (h : s.stopped = true) :
    stepLine o s ln line = s := by
  unfold stepLine; rw [if_pos h]

theorem stepItem_models_prefix (o : ReadOpts) (s : PState) (ctx : Nat × List Char) (item : LexItem) :
    s.models <+: (stepItem o s ctx item).1.models := by
  cases item
  case model =>
    rw [stepItem_model]
    split <;> exact flushModel_models_prefix s
  case master => exact flushModel_models_prefix s
  all_goals rw [stepItem_footprint]; exact List.prefix_rfl

theorem stepLine_models_prefix (o : ReadOpts) (s : PState) (ln : Nat) (line : List Char) :
    s.models <+: (stepLine o s ln line).models := by
  rw [stepLine_proj PState.models fun _ _ => rfl]
  split
  · exact List.prefix_rfl
  · split
    · exact List.prefix_rfl
    · exact stepItem_models_prefix o s.noErr _ _

theorem fold_models_prefix (o : ReadOpts) (zl : List (Nat × List Char)) (s : PState) :
    ∃ t, (zl.foldl (fun s (il : Nat × List Char) => stepLine o s (il.1 + 1) il.2) s).models = s.models ++ t := by
  obtain ⟨t, h⟩ := List.foldlRecOn (motive := fun r => s.models <+: r.models) zl _ List.prefix_rfl
    fun r hr il _ => hr.trans (stepLine_models_prefix o r _ _)
  exact ⟨t, h.symm⟩

theorem stepItem_first (o : ReadOpts) (s : PState) (ctx : Nat × List Char) (item : LexItem) :
    stepItem (withFirst o true) s ctx item = stepItem (withFirst o false) s ctx item ∨
    (stepItem (withFirst o true) s ctx item = ({ flushModel s with stopped := true }, []) ∧
     (stepItem (withFirst o false) s ctx item).1.models = (flushModel s).models) := by
  cases item
  case model n =>
    rw [stepItem_model, stepItem_model]
    cases s.cur.isEmpty
    · exact Or.inr ⟨rfl, rfl⟩
    · exact Or.inl rfl
  all_goals exact Or.inl rfl

/-- the two reads side by side: equal so far, or the read with the option has stopped on a complete list of models
that the other read only extends -/
def FirstRel (s1 s0 : PState) : Prop :=
  (s1 = s0 ∧ s1.stopped = false) ∨ (s1.stopped = true ∧ s1.cur = [] ∧ s1.models <+: s0.models)

theorem stepLine_first (o : ReadOpts) (s1 s0 : PState) (ln : Nat) (line : List Char) (h : FirstRel s1 s0) :
    FirstRel (stepLine (withFirst o true) s1 ln line) (stepLine (withFirst o false) s0 ln line) := by
  rcases h with ⟨rfl, hs⟩ | ⟨hst, hcur, ht⟩
  · rw [stepLine_eq, stepLine_eq, if_neg (hs ▸ Bool.false_ne_true), if_neg (hs ▸ Bool.false_ne_true)]
    show FirstRel (stepLexed _ s1 ln line (lexLine line ln o.level o.onlyAtomicCoords))
      (stepLexed _ s1 ln line (lexLine line ln o.level o.onlyAtomicCoords))
    cases lexLine line ln o.level o.onlyAtomicCoords with
    | error e => exact Or.inl ⟨rfl, hs⟩
    | ok p =>
      rw [stepLexed, stepLexed]
      rcases stepItem_first o s1.noErr (ln, line) p.1 with heq | ⟨h1, h0⟩
      · rw [heq]
        exact Or.inl ⟨rfl, (stepItem_stopped _ rfl ..).trans hs⟩
      · rw [h1]
        exact Or.inr ⟨rfl, by rw [flushModel_eq], h0 ▸ List.prefix_rfl⟩
  · rw [C15_pdb_stopped_is_final _ s1 ln line hst]
    exact Or.inr ⟨hst, hcur, ht.trans (stepLine_models_prefix ..)⟩

theorem readFirst_rel (o : ReadOpts) (lines : List (List Char)) :
    FirstRel (parseLines (withFirst o true) lines) (parseLines (withFirst o false) lines) :=
  List.foldl_rel (Or.inl ⟨rfl, rfl⟩) fun _ _ s1 s0 h => stepLine_first o s1 s0 _ _ h

/-- **only-first-model keeps the first models of the unrestricted read** (PDB reader, before the post-processing):
the list of models read with the option is an initial part of the list read without it — and when the reading was
never stopped (no second model follows), the two parser states are the same altogether -/
theorem C15_pdb_first_model_is_prefix (o : ReadOpts) (lines : List (List Char)) :
    ∃ t, (flushModel (((List.range lines.length).zip lines).foldl
            (fun s (il : Nat × List Char) => stepLine (withFirst o false) s (il.1 + 1) il.2) ({} : PState))).models =
         (flushModel (((List.range lines.length).zip lines).foldl
            (fun s (il : Nat × List Char) => stepLine (withFirst o true) s (il.1 + 1) il.2) ({} : PState))).models ++ t := by
  rcases readFirst_rel o lines with ⟨heq, _⟩ | ⟨_, hcur, ht⟩
  · exact ⟨[], (congrArg (fun s => (flushModel s).models) heq.symm).trans (List.append_nil _).symm⟩
  · obtain ⟨t, h⟩ := ht.trans (flushModel_models_prefix (parseLines (withFirst o false) lines))
    refine ⟨t, ?_⟩
    rw [flushModel_of_empty (parseLines (withFirst o true) lines) (by rw [hcur]; rfl)]
    exact h.symm

/-- **a text with a single model is read the same with and without the option**: when the reading never stops, the
two parser states agree in every component -/
theorem C15_pdb_first_model_no_stop (o : ReadOpts) (lines : List (List Char))
    (h : (((List.range lines.length).zip lines).foldl
      (fun s (il : Nat × List Char) => stepLine (withFirst o true) s (il.1 + 1) il.2) ({} : PState)).stopped = false) :
    ((List.range lines.length).zip lines).foldl
      (fun s (il : Nat × List Char) => stepLine (withFirst o true) s (il.1 + 1) il.2) ({} : PState) =
    ((List.range lines.length).zip lines).foldl
      (fun s (il : Nat × List Char) => stepLine (withFirst o false) s (il.1 + 1) il.2) ({} : PState) := by
  rcases readFirst_rel o lines with ⟨heq, _⟩ | ⟨hst, _⟩
  · exact heq
  · rw [h] at hst; cases hst

end PdbModel
