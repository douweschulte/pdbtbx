/-
C02 — a missing mandatory value is an error, never a default.  For each mandatory cell of an atom_site row
(atom name, atom id, residue name, chain id, x, y, z) in the order the parser asks for them: when the cell holds
`.` or `?` (or its column is absent), the row contributes no atom — the models are exactly what they were — and the
diagnostics end with the InvalidatingError "Missing value in coordinate atoms data loop", which rejects the read at
every strictness level (`C02_invalidating_rejects`).  The chain id prefers the author's: the label id is only asked
for when the author id has no value.
-/
import PdbModel.Lemmas.CifRow
namespace PdbModel

/-- a cell without a value: `.` or `?`, or a column that is not there -/
def NoValue (v : Option CifValue) : Prop := v = some .inapplicable ∨ v = some .unknown ∨ v = none

theorem colText_noValue (v : Option CifValue) (h : NoValue v) : (colText v).val = none ∧ (colText v).err = [] := by
  rcases h with rfl | rfl | rfl <;> exact ⟨rfl, rfl⟩

theorem colF64_noValue (v : Option CifValue) (h : NoValue v) : (colF64 v).val = none ∧ (colF64 v).err = [] := by
  rcases h with rfl | rfl | rfl <;> exact ⟨rfl, rfl⟩

/-- what every statement below concludes: no atom, and a "Missing value" diagnostic last -/
def RowRefused (s r : AState) : Prop :=
  r.models = s.models ∧ ∃ pre, r.errors = s.errors ++ pre ++ [missingValue]

theorem refused_of_cells {s : AState} {vals : List (Option CifValue)}
    (h : ∀ t : AState, ∃ pre x, rowCells t vals = (none, { t with errors := t.errors ++ (pre ++ [missingValue]), exact := x })) :
    RowRefused s (atomRowCore false s vals) := by
  unfold atomRowCore firstModelGate
  simp only [Bool.false_eq_true, if_false]
  obtain ⟨pre, x, hrc⟩ := h { s with
    errors := s.errors ++ (colUsize ((vals[18]?).join)).err,
    exact := (s.exact && (colText ((vals[23]?).join)).exact && (colUsize ((vals[18]?).join)).exact &&
      (colText ((vals[15]?).join)).exact) }
  rw [hrc]
  exact ⟨rfl, (colUsize ((vals[18]?).join)).err ++ pre, by simp only [List.append_assoc]⟩

theorem C02_missing_atom_name (s : AState) (vals : List (Option CifValue))
    (h : NoValue ((vals[19]?).join)) : RowRefused s (atomRowCore false s vals) := by
  refine refused_of_cells fun t => ?_
  unfold rowCells
  simp only [reqCol_of_noValue (colText_noValue _ h), bindS]
  exact ⟨[], _, rfl⟩

theorem C02_missing_atom_id (s : AState) (vals : List (Option CifValue)) (nm : List Char)
    (h19 : (colText ((vals[19]?).join)).val = some nm)
    (h : NoValue ((vals[16]?).join)) : RowRefused s (atomRowCore false s vals) := by
  refine refused_of_cells fun t => ?_
  unfold rowCells
  simp only [reqCol_of_some h19, reqCol_of_noValue (colText_noValue _ h), bindS]
  exact ⟨[], _, rfl⟩

theorem C02_missing_residue_name (s : AState) (vals : List (Option CifValue)) (nm id : List Char)
    (h19 : (colText ((vals[19]?).join)).val = some nm) (h16 : (colText ((vals[16]?).join)).val = some id)
    (h : NoValue ((vals[14]?).join)) : RowRefused s (atomRowCore false s vals) := by
  refine refused_of_cells fun t => ?_
  unfold rowCells
  simp only [reqCol_of_some h19, reqCol_of_some h16, reqCol_of_noValue (colText_noValue _ h), bindS]
  exact ⟨[], _, rfl⟩

theorem rowChain_of_noValue {vals : List (Option CifValue)} (ha : NoValue ((vals[11]?).join))
    (hl : NoValue ((vals[10]?).join)) (t : AState) :
    rowChain t vals = (none, { t with errors := t.errors ++ [missingValue],
                                      exact := t.exact && (colText ((vals[11]?).join)).exact }) := by
  unfold rowChain
  simp only [(colText_noValue _ ha).1, reqCol_of_noValue (colText_noValue _ hl)]

/-- no author chain id and no label chain id -/
theorem C02_missing_chain_id (s : AState) (vals : List (Option CifValue)) (nm id rn : List Char)
    (h19 : (colText ((vals[19]?).join)).val = some nm) (h16 : (colText ((vals[16]?).join)).val = some id)
    (h14 : (colText ((vals[14]?).join)).val = some rn)
    (ha : NoValue ((vals[11]?).join)) (hl : NoValue ((vals[10]?).join)) :
    RowRefused s (atomRowCore false s vals) := by
  refine refused_of_cells fun t => ?_
  obtain ⟨n, e, x, -, hnum⟩ := rowResNum_stage vals t
  unfold rowCells
  simp only [reqCol_of_some h19, reqCol_of_some h16, reqCol_of_some h14, hnum, rowChain_of_noValue ha hl, bindS,
    List.append_assoc]
  exact ⟨e, _, rfl⟩

/-- the chain id is there: the author's, or else the label's -/
def HasChain (vals : List (Option CifValue)) : Prop :=
  (∃ c, (colText ((vals[11]?).join)).val = some c) ∨
  ((colText ((vals[11]?).join)).val = none ∧ ∃ c, (colText ((vals[10]?).join)).val = some c)

theorem rowChain_of_hasChain {vals : List (Option CifValue)} (h : HasChain vals) :
    ∃ c x, ∀ t : AState, rowChain t vals = (some c, { t with exact := t.exact && x }) := by
  rcases h with ⟨c, hc⟩ | ⟨hn, c, hc⟩
  · exact ⟨c, (colText ((vals[11]?).join)).exact, fun t => by unfold rowChain; simp only [hc]⟩
  · exact ⟨c, (colText ((vals[11]?).join)).exact && (colText ((vals[10]?).join)).exact, fun t => by
      unfold rowChain; simp only [hn, reqCol_of_some hc, Bool.and_assoc]⟩

theorem C02_missing_x (s : AState) (vals : List (Option CifValue)) (nm id rn : List Char)
    (h19 : (colText ((vals[19]?).join)).val = some nm) (h16 : (colText ((vals[16]?).join)).val = some id)
    (h14 : (colText ((vals[14]?).join)).val = some rn) (hc : HasChain vals)
    (h : NoValue ((vals[24]?).join)) : RowRefused s (atomRowCore false s vals) := by
  refine refused_of_cells fun t => ?_
  obtain ⟨n, e, x, -, hnum⟩ := rowResNum_stage vals t
  obtain ⟨c, xc, hchain⟩ := rowChain_of_hasChain hc
  unfold rowCells
  simp only [reqCol_of_some h19, reqCol_of_some h16, reqCol_of_some h14, hnum, hchain,
    reqCol_of_noValue (colF64_noValue _ h), bindS, List.append_assoc]
  exact ⟨e, _, rfl⟩

theorem C02_missing_y (s : AState) (vals : List (Option CifValue)) (nm id rn : List Char)
    (h19 : (colText ((vals[19]?).join)).val = some nm) (h16 : (colText ((vals[16]?).join)).val = some id)
    (h14 : (colText ((vals[14]?).join)).val = some rn) (hc : HasChain vals)
    (fx : Flt) (h24 : (colF64 ((vals[24]?).join)).val = some fx)
    (h : NoValue ((vals[25]?).join)) : RowRefused s (atomRowCore false s vals) := by
  refine refused_of_cells fun t => ?_
  obtain ⟨n, e, x, -, hnum⟩ := rowResNum_stage vals t
  obtain ⟨c, xc, hchain⟩ := rowChain_of_hasChain hc
  unfold rowCells
  simp only [reqCol_of_some h19, reqCol_of_some h16, reqCol_of_some h14, hnum, hchain, reqCol_of_some h24,
    reqCol_of_noValue (colF64_noValue _ h), bindS, List.append_assoc]
  exact ⟨e, _, rfl⟩

theorem C02_missing_z (s : AState) (vals : List (Option CifValue)) (nm id rn : List Char)
    (h19 : (colText ((vals[19]?).join)).val = some nm) (h16 : (colText ((vals[16]?).join)).val = some id)
    (h14 : (colText ((vals[14]?).join)).val = some rn) (hc : HasChain vals)
    (fx fy : Flt) (h24 : (colF64 ((vals[24]?).join)).val = some fx) (h25 : (colF64 ((vals[25]?).join)).val = some fy)
    (h : NoValue ((vals[26]?).join)) : RowRefused s (atomRowCore false s vals) := by
  refine refused_of_cells fun t => ?_
  obtain ⟨n, e, x, -, hnum⟩ := rowResNum_stage vals t
  obtain ⟨c, xc, hchain⟩ := rowChain_of_hasChain hc
  unfold rowCells
  simp only [reqCol_of_some h19, reqCol_of_some h16, reqCol_of_some h14, hnum, hchain, reqCol_of_some h24,
    reqCol_of_some h25, reqCol_of_noValue (colF64_noValue _ h), bindS, List.append_assoc]
  exact ⟨e, _, rfl⟩

theorem range9 : List.range 9 = [0, 1, 2, 3, 4, 5, 6, 7, 8] := by decide

/-- of the cells a row is read from, the label chain id (10) and the label residue number (21) are looked at by
`rowCells` alone -/
theorem atomRowCore_set (b : Bool) (s : AState) (vals : List (Option CifValue)) (k : Nat) (v' : Option CifValue)
    (hk : k = 10 ∨ k = 21) (hcells : ∀ t, rowCells t (vals.set k v') = rowCells t vals) :
    atomRowCore b s (vals.set k v') = atomRowCore b s vals := by
  -- every other reader asks for a fixed position different from `k` (`range9`: the nine tensor cells of `rowOptional`)
  have hopt : ∀ t, rowOptional t (vals.set k v') = rowOptional t vals := by
    intro t
    unfold rowOptional
    rcases hk with rfl | rfl <;>
      simp only [range9, List.map_cons, List.map_nil, Nat.zero_add, Nat.reduceAdd, List.getElem?_set_ne, ne_eq,
        Nat.reduceEqDiff, not_false_eq_true]
  unfold atomRowCore placeRow
  rcases hk with rfl | rfl <;>
    simp only [hcells, hopt, List.getElem?_set_ne, ne_eq, Nat.reduceEqDiff, not_false_eq_true]

/-- **the author's chain id is preferred**: when the auth_asym_id cell has a value, the label_asym_id cell does not
matter at all — whatever stands there (nothing, `?`, another id) the row is read the same -/
theorem C02_author_chain_preferred (b : Bool) (s : AState) (vals : List (Option CifValue)) (c : List Char)
    (h11 : (colText ((vals[11]?).join)).val = some c) (v' : Option CifValue) :
    atomRowCore b s (vals.set 10 v') = atomRowCore b s vals := by
  refine atomRowCore_set b s vals 10 v' (Or.inl rfl) fun t => ?_
  unfold rowCells rowChain rowResNum
  simp only [List.getElem?_set_ne, ne_eq, Nat.reduceEqDiff, not_false_eq_true, h11]

/-- **the author's residue number is preferred**: when the auth_seq_id cell holds a number, the label_seq_id
cell does not matter -/
theorem C02_author_number_preferred (b : Bool) (s : AState) (vals : List (Option CifValue)) (n : Int)
    (h22 : (colIsize ((vals[22]?).join)).val = some n) (v' : Option CifValue) :
    atomRowCore b s (vals.set 21 v') = atomRowCore b s vals := by
  refine atomRowCore_set b s vals 21 v' (Or.inr rfl) fun t => ?_
  unfold rowCells rowChain rowResNum
  simp only [List.getElem?_set_ne, ne_eq, Nat.reduceEqDiff, not_false_eq_true, h22]

/-- non-vacuity: a row whose atom name cell is `?` -/
example : NoValue ((([some (.text ['A'])] : List (Option CifValue))[19]?).join) := Or.inr (Or.inr rfl)

end PdbModel
