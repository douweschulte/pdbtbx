/-
C10 — editing operations do exactly what they say and nothing else: one frame-and-effect theorem per
operation family. (`none` models both a documented refusal and a Rust panic: nothing is returned, so
nothing can have changed.)
-/
import PdbModel.Edit
import PdbModel.Lemmas.List
namespace PdbModel

/-! Every walk is a nest of `flatMap`s and every removal maps the levels above the one it filters, so both sides
normalise to the same nest; what is left after that holds by unfolding. -/

theorem filter_flatMap' {α β} (l : List α) (f : α → List β) (p : β → Bool) :
    (l.flatMap f).filter p = l.flatMap (fun x => (f x).filter p) := List.filter_flatMap

/-- removing atoms by predicate: the atoms are exactly the survivors in order; every container keeps
its identifier and position (it may become empty) -/
theorem C10_remove_atoms_by (p : Atom → Bool) (s : PDB) :
    (s.removeAtomsBy p).atoms = s.atoms.filter (fun a => !p a) ∧
    (s.removeAtomsBy p).conformers.map (fun c => (c.name, c.alt, c.modification)) =
      s.conformers.map (fun c => (c.name, c.alt, c.modification)) ∧
    (s.removeAtomsBy p).residues.map Residue.rid = s.residues.map Residue.rid ∧
    (s.removeAtomsBy p).chains.map (·.id) = s.chains.map (·.id) ∧
    (s.removeAtomsBy p).models.map (·.serial) = s.models.map (·.serial) := by
  refine ⟨?_, ?_, ?_, ?_, ?_⟩
  all_goals simp only [PDB.atoms, PDB.conformers, PDB.residues, PDB.chains, Model.atoms, Model.conformers,
    Model.residues, Chain.atoms, Chain.conformers, Residue.atoms, PDB.removeAtomsBy, Model.removeAtomsBy,
    Chain.removeAtomsBy, Residue.removeAtomsBy, Conformer.removeAtomsBy, List.flatMap_map, List.map_flatMap,
    List.map_map, List.filter_flatMap]
  all_goals rfl

theorem C10_remove_conformers_by (p : Conformer → Bool) (s : PDB) :
    (s.removeConformersBy p).conformers = s.conformers.filter (fun c => !p c) ∧
    (s.removeConformersBy p).residues.map Residue.rid = s.residues.map Residue.rid ∧
    (s.removeConformersBy p).chains.map (·.id) = s.chains.map (·.id) := by
  refine ⟨?_, ?_, ?_⟩
  all_goals simp only [PDB.conformers, PDB.residues, PDB.chains, Model.conformers, Model.residues,
    Chain.conformers, PDB.removeConformersBy, Model.removeConformersBy, Chain.removeConformersBy,
    Residue.removeConformersBy, List.flatMap_map, List.map_flatMap, List.map_map, List.filter_flatMap]
  all_goals rfl

theorem C10_remove_residues_by (p : Residue → Bool) (s : PDB) :
    (s.removeResiduesBy p).residues = s.residues.filter (fun r => !p r) ∧
    (s.removeResiduesBy p).chains.map (·.id) = s.chains.map (·.id) := by
  refine ⟨?_, ?_⟩
  all_goals simp only [PDB.residues, PDB.chains, Model.residues, PDB.removeResiduesBy, Model.removeResiduesBy,
    Chain.removeResiduesBy, List.flatMap_map, List.map_flatMap, List.map_map, List.filter_flatMap]
  all_goals rfl

theorem C10_remove_chains_by (p : Chain → Bool) (s : PDB) :
    (s.removeChainsBy p).chains = s.chains.filter (fun c => !p c) ∧
    (s.removeChainsBy p).models.map (·.serial) = s.models.map (·.serial) := by
  refine ⟨?_, ?_⟩
  all_goals simp only [PDB.chains, PDB.removeChainsBy, Model.removeChainsBy, List.flatMap_map, List.map_map,
    List.filter_flatMap]
  all_goals rfl

theorem C10_remove_models_by (p : Model → Bool) (s : PDB) :
    (s.removeModelsBy p).models = s.models.filter (fun m => !p m) := rfl

/-! removal by identifier / serial number / name: first match only, reports whether one existed -/

theorem findIdx?_eq_none_iff_all {α} (p : α → Bool) (l : List α) :
    l.findIdx? p = none ↔ ∀ x ∈ l, p x = false := by
  rw [List.findIdx?_eq_none_iff]

theorem C10_remove_first {α} (p : α → Bool) (l : List α) :
    (removeFirst p l).1 = l.eraseP p ∧ (removeFirst p l).2 = l.any p := by
  unfold removeFirst
  rw [List.eraseP_eq_eraseIdx, ← List.findIdx?_isSome]
  cases l.findIdx? p <;> exact ⟨rfl, rfl⟩

/-- what `eraseP` means: the first match is gone, everything before it and after it is kept in order -/
theorem C10_remove_first_frame {α} (p : α → Bool) (l : List α) :
    (∀ x ∈ l, p x = false) ∧ l.eraseP p = l ∨
    ∃ a l₁ l₂, (∀ b ∈ l₁, p b = false) ∧ p a = true ∧ l = l₁ ++ a :: l₂ ∧ l.eraseP p = l₁ ++ l₂ := by
  rcases List.exists_or_eq_self_of_eraseP p l with h | ⟨a, l₁, l₂, h1, h2, h3, h4⟩
  · exact .inl ⟨fun x hx => by simpa using List.eraseP_eq_self_iff.mp h x hx, h⟩
  · exact .inr ⟨a, l₁, l₂, fun b hb => by simpa using h1 b hb, h2, h3, h4⟩

/-! removal / insertion by index: refused (panic in Rust) when out of range, exact otherwise -/

theorem C10_remove_idx {α} (l : List α) (i : Nat) :
    (i < l.length → removeIdx? l i = some (l.eraseIdx i)) ∧ (l.length ≤ i → removeIdx? l i = none) :=
  ⟨fun h => if_pos h, fun h => if_neg (Nat.not_lt.mpr h)⟩

theorem C10_insert_idx {α} (l : List α) (i : Nat) (x : α) :
    (i ≤ l.length → insertIdx? l i x = some (l.take i ++ x :: l.drop i)) ∧
    (l.length < i → insertIdx? l i x = none) :=
  ⟨fun h => if_pos h, fun h => if_neg (Nat.not_le.mpr h)⟩

/-- one level of the cascade, seen from a survivor: it is the cleaned form of an original child and it is
not empty (`w` = the children that are counted) -/
theorem of_mem_removeEmpty {α β} {f : α → α} {w : α → List β} {l : List α} {x : α}
    (h : x ∈ (l.map f).filter (fun y => (w y).length > 0)) : w x ≠ [] ∧ ∃ x₀ ∈ l, f x₀ = x := by
  obtain ⟨hm, hpos⟩ := List.mem_filter.mp h
  exact ⟨List.ne_nil_of_length_pos (of_decide_eq_true hpos), List.mem_map.mp hm⟩

theorem C10_remove_empty_no_empty (s : PDB) :
    ∀ m ∈ s.removeEmpty.models, m.chains ≠ [] ∧ ∀ c ∈ m.chains, c.residues ≠ [] ∧
      ∀ r ∈ c.residues, r.conformers ≠ [] ∧ ∀ f ∈ r.conformers, f.atoms ≠ [] := by
  intro m hm
  obtain ⟨hne, m₀, -, rfl⟩ := of_mem_removeEmpty (w := Model.chains) hm
  refine ⟨hne, fun c hc => ?_⟩
  obtain ⟨hne, c₀, -, rfl⟩ := of_mem_removeEmpty (w := Chain.residues) hc
  refine ⟨hne, fun r hr => ?_⟩
  obtain ⟨hne, r₀, -, rfl⟩ := of_mem_removeEmpty (w := Residue.conformers) hr
  refine ⟨hne, fun f hf => ?_⟩
  exact List.ne_nil_of_length_pos (of_decide_eq_true (List.mem_filter.mp hf).2)

/-- one level of the cascade, seen from the atoms: cleaning the children (`f`, which keeps their atoms) and
then dropping those without children of their own (`ch`) loses no atom -/
theorem flatMap_removeEmpty {α γ} (l : List α) (f : α → α) (ch : α → List γ) (w : α → List Atom)
    (hf : ∀ x, w (f x) = w x) (hw : ∀ x, ch x = [] → w x = []) :
    ((l.map f).filter (fun y => (ch y).length > 0)).flatMap w = l.flatMap w := by
  rw [flatMap_filter_of_empty, List.flatMap_map]
  · simp only [hf]
  · intro y hy
    exact hw y (List.eq_nil_of_length_eq_zero (by simpa using hy))

/-- nothing but empty containers disappears: the atoms (with their order) are untouched -/
theorem C10_remove_empty_atoms (s : PDB) : s.removeEmpty.atoms = s.atoms := by
  have hr : ∀ r : Residue, r.removeEmpty.atoms = r.atoms := fun r =>
    flatMap_filter_of_empty _ _ _ fun f hf =>
      List.eq_nil_of_length_eq_zero (by simpa [Conformer.atomCount] using hf)
  have hc : ∀ c : Chain, c.removeEmpty.atoms = c.atoms := fun c =>
    flatMap_removeEmpty _ _ Residue.conformers _ hr fun r h => by simp [Residue.atoms, h]
  have hm : ∀ m : Model, m.removeEmpty.atoms = m.atoms := fun m =>
    flatMap_removeEmpty _ _ Chain.residues _ hc fun c h => by simp [Chain.atoms, h]
  exact flatMap_removeEmpty _ _ Model.chains _ hm fun m h => by simp [Model.atoms, h]

/-- keeping selected models: refused without change when there are no models, no indices, or an index
is out of range; otherwise exactly the models at the listed indices, in original order, and the number
removed is reported -/
theorem C10_models_except (s : PDB) (idxs : List Nat) :
    ((s.models = [] ∨ idxs = [] ∨ ∃ i ∈ idxs, i ≥ s.models.length) →
      s.removeModelsExcept idxs = (s, none)) ∧
    ((s.models ≠ [] ∧ idxs ≠ [] ∧ ∀ i ∈ idxs, i < s.models.length) →
      (s.removeModelsExcept idxs).1.models =
        (s.models.zipIdx.filter (fun mi => idxs.contains mi.2)).map (·.1) ∧
      (s.removeModelsExcept idxs).2 =
        some (s.models.length - (s.removeModelsExcept idxs).1.models.length)) := by
  unfold PDB.removeModelsExcept
  cases hmx : idxs.max? with
  | none =>
    have hnil : idxs = [] := List.max?_eq_none_iff.mp hmx
    exact ⟨fun _ => by split <;> rfl, fun h => absurd hnil h.2.1⟩
  | some mx =>
    -- the largest index decides: it is out of range iff some index is
    obtain ⟨hmem, hle⟩ := List.max?_eq_some_iff.mp hmx
    refine ⟨fun h => ?_, fun ⟨h1, _, h3⟩ => ?_⟩
    · split
      · rfl
      · next he =>
        dsimp only
        rw [if_pos]
        rcases h with h | h | ⟨i, hi, hge⟩
        · simp [h] at he
        · simp [h] at hmem
        · exact Nat.le_trans hge (hle i hi)
    · dsimp only
      rw [if_neg (by simpa using h1), if_neg (Nat.not_le.mpr (h3 mx hmem))]
      exact ⟨rfl, rfl⟩

/-! join / extend: concatenation, the receiver's own data kept -/

theorem C10_join_conformer (c o : Conformer) :
    (c.join o).atoms = c.atoms ++ o.atoms ∧ (c.join o).name = c.name ∧ (c.join o).alt = c.alt ∧
    (c.join o).modification = c.modification := ⟨rfl, rfl, rfl, rfl⟩

theorem C10_join_levels (r o : Residue) (c oc : Chain) (m om : Model) :
    (r.join o).conformers = r.conformers ++ o.conformers ∧ (r.join o).rid = r.rid ∧
    (c.join oc).residues = c.residues ++ oc.residues ∧ (c.join oc).id = c.id ∧
    (m.join om).chains = m.chains ++ om.chains ∧ (m.join om).serial = m.serial :=
  ⟨rfl, rfl, rfl, rfl, rfl, rfl⟩

/-- `PDB::join`: models are appended when either side has several; two single-model structures are merged
into the receiver's model; an empty side is the identity -/
theorem C10_join_pdb (s o : PDB) :
    ((s.models.length > 1 ∨ o.models.length > 1) → (s.join o).models = s.models ++ o.models) ∧
    (s.models = [] → o.models.length ≤ 1 → (s.join o).models = o.models) ∧
    (o.models = [] → s.models.length ≤ 1 → (s.join o).models = s.models) ∧
    (∀ m om, s.models = [m] → o.models = [om] → (s.join o).models = [m.join om]) := by
  unfold PDB.join
  refine ⟨fun h => ?_, fun hs ho => ?_, fun ho hs => ?_, fun m om hs ho => ?_⟩
  · rw [if_pos (by simpa using h)]
  · rw [if_neg (by simp [hs]; omega), hs]
  · rw [if_neg (by simp [ho]; omega), ho]
    cases hms : s.models with
    | nil => exact ho
    | cons m ms => exact hms
  · rw [if_neg (by simp [hs, ho]), hs, ho]

/-! setters: a rejected value never becomes part of the structure; an accepted one is stored in
normalised form and nothing else changes -/

/-- a setter that takes finite, non-negative numbers only -/
theorem nonneg_setter {α} {set : Num → Option α} {upd : Int → α}
    (hfin : ∀ v, set (.fin v) = if v ≥ 0 then some (upd v) else none) (hnot : set .notFinite = none) (n : Num) :
    (set n = none ↔ (n = .notFinite ∨ ∃ v, n = .fin v ∧ v < 0)) ∧
    (∀ a', set n = some a' → ∃ v, n = .fin v ∧ 0 ≤ v ∧ a' = upd v) := by
  cases n with
  | notFinite => simp [hnot]
  | fin v =>
    rw [hfin]
    by_cases h : v ≥ 0 <;> simp [h] <;> omega

theorem C10_set_occupancy (a : Atom) (n : Num) :
    (a.setOccupancy n = none ↔ (n = .notFinite ∨ ∃ v, n = .fin v ∧ v < 0)) ∧
    (∀ a', a.setOccupancy n = some a' → ∃ v, n = .fin v ∧ 0 ≤ v ∧ a' = { a with occ := v }) :=
  nonneg_setter (fun _ => rfl) rfl n

theorem C10_set_b_factor (a : Atom) (n : Num) :
    (a.setBFactor n = none ↔ (n = .notFinite ∨ ∃ v, n = .fin v ∧ v < 0)) ∧
    (∀ a', a.setBFactor n = some a' → ∃ v, n = .fin v ∧ 0 ≤ v ∧ a' = { a with b := v }) :=
  nonneg_setter (fun _ => rfl) rfl n

theorem C10_set_pos (a : Atom) (x y z : Num) :
    (a.setPos x y z = none ↔ (x = .notFinite ∨ y = .notFinite ∨ z = .notFinite)) ∧
    (∀ a', a.setPos x y z = some a' → ∃ vx vy vz, x = .fin vx ∧ y = .fin vy ∧ z = .fin vz ∧
      a' = { a with x := vx, y := vy, z := vz }) := by
  cases x <;> cases y <;> cases z <;> simp [Atom.setPos]

/-- a setter that stores what normalisation returns -/
theorem map_setter {α β} (o : Option α) (f : α → β) :
    (o.map f = none ↔ o = none) ∧ ∀ b, o.map f = some b → ∃ n, o = some n ∧ b = f n :=
  ⟨Option.map_eq_none_iff, fun _ h => let ⟨n, hn, e⟩ := Option.map_eq_some_iff.mp h; ⟨n, hn, e.symm⟩⟩

theorem C10_set_text (a : Atom) (c : Conformer) (r : Residue) (ch : Chain) (raw : String) :
    (a.setName raw = none ↔ validText raw.toList = false) ∧
    (∀ a', a.setName raw = some a' → a' = { a with name := String.ofList ((trim raw.toList).map upperAscii) }) ∧
    (c.setName raw = none ↔ prepIdUpS raw = none) ∧
    (∀ c', c.setName raw = some c' → ∃ n, prepIdUpS raw = some n ∧ c' = { c with name := n }) ∧
    (r.setIcode raw = none ↔ prepIdUpS raw = none) ∧
    (∀ r', r.setIcode raw = some r' → ∃ n, prepIdUpS raw = some n ∧ r' = { r with icode := some n }) ∧
    (ch.setId raw = none ↔ prepIdS raw = none) ∧
    (∀ c', ch.setId raw = some c' → ∃ n, prepIdS raw = some n ∧ c' = { ch with id := n }) := by
  refine ⟨?_, ?_, (map_setter _ _).1, (map_setter _ _).2, (map_setter _ _).1, (map_setter _ _).2,
    (map_setter _ _).1, (map_setter _ _).2⟩
  · unfold Atom.setName; cases validText raw.toList <;> simp
  · intro a' h; unfold Atom.setName at h; split at h <;> simp_all

/-- non-vacuity -/
example :
    let a : Atom := { (default : Atom) with serial := 3 }
    let b : Atom := { (default : Atom) with serial := 4 }
    let s : PDB := ⟨[⟨1, [⟨"A", [⟨1, none, [⟨"ALA", none, [a, b], none⟩, ⟨"GLY", none, [], none⟩]⟩]⟩, ⟨"B", []⟩]⟩]⟩
    (s.removeAtomsBy (fun x => x.serial == 3)).atoms = [b] ∧ s.removeEmpty.chains.length = 1 ∧
    s.removeEmpty.conformers.length = 1 ∧ (s.removeModelsExcept [0]).2 = some 0 ∧ (s.removeModelsExcept [1]).2 = none := by
  decide

end PdbModel
