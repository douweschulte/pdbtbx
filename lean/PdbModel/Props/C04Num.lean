/-
C04 — numbers: what `print_float` writes, `parse_numeric` reads back as the original rounded to five decimals.
(Model functions `printFloat` of `CifWrite.lean` and `parseNumeric` of `Cif.lean`; digit strings from `Lemmas/Digits.lean`.)
-/
import PdbModel.CifWrite
import PdbModel.Cif
import PdbModel.Lemmas.Digits
namespace PdbModel

/-- the value `parse_numeric` assigns to mantissa digits `mantN` with sign `neg`, `sig` significant digits and
decimal exponent `e` -/
def numValue (neg : Bool) (mantN sig : Nat) (e : Int) : Flt :=
  if mantN = 0 then .fin 0 0
  else if (sig : Int) + e < -330 then .fin 0 0
  else if (Flt.fin (if neg then -(mantN : Int) else mantN) e).isFinite then .fin (if neg then -(mantN : Int) else mantN) e
  else .inf neg

theorem parseNumeric_decimal (neg : Bool) (ipd fpd : List Char) (hi0 : ipd ≠ []) (hi : ipd.all isDigit = true)
    (hf : fpd.all isDigit = true) :
    parseNumeric (signed neg (ipd ++ '.' :: fpd)) =
      some (.num (numValue neg (digitsVal (ipd ++ fpd)) (((ipd ++ fpd).dropWhile (· == '0')).length)
          (0 - (fpd.length : Int))) (((ipd ++ fpd).dropWhile (· == '0')).length) (signed neg (ipd ++ '.' :: fpd))) := by
  obtain ⟨d, r, rfl⟩ := List.exists_cons_of_ne_nil hi0
  obtain ⟨hm, hp, _⟩ := digit_facts (List.all_eq_true.mp hi d (List.mem_cons_self ..))
  have hsp := span_prefix isDigit (d :: r) ('.' :: fpd) (List.all_eq_true.mp hi) (fun x hx => by cases hx; decide)
  have hfp := span_all isDigit fpd (List.all_eq_true.mp hf)
  rw [List.cons_append] at hsp
  cases neg <;> simp [signed, parseNumeric, numValue, hm, hp, hsp, hfp]

theorem parseNumeric_int (neg : Bool) (ds : List Char) (h0 : ds ≠ []) (hd : ds.all isDigit = true) :
    parseNumeric (signed neg ds) =
      some (.num (numValue neg (digitsVal ds) ((ds.dropWhile (· == '0')).length) 0)
        ((ds.dropWhile (· == '0')).length) (signed neg ds)) := by
  obtain ⟨d, r, rfl⟩ := List.exists_cons_of_ne_nil h0
  obtain ⟨hm, hp, _⟩ := digit_facts (List.all_eq_true.mp hd d (List.mem_cons_self ..))
  have hsp := span_all isDigit (d :: r) (List.all_eq_true.mp hd)
  cases neg <;> simp [signed, parseNumeric, numValue, hm, hp, hsp]

theorem isFinite_small (m : Int) (e : Int) (he : e ≤ 0) (hm : m.natAbs < 10 ^ 20) :
    (Flt.fin m e).isFinite = true := by
  have hB : 10 ^ 20 ≤ 2 ^ 1024 - 2 ^ 970 := by decide +kernel
  unfold Flt.isFinite
  simp only
  split
  · rfl
  · split
    · obtain rfl : e = 0 := by omega
      rw [if_neg (by decide), decide_eq_true_eq, Int.toNat_zero, Nat.pow_zero, Nat.mul_one]
      exact Nat.lt_of_lt_of_le hm hB
    · split
      · rfl
      · rw [decide_eq_true_eq]
        exact Nat.lt_of_lt_of_le hm (Nat.le_trans hB (Nat.le_mul_of_pos_right _ (Nat.pow_pos (by decide))))

theorem micro_small (m : Int) (k : Nat) (hk : k ≤ 6) :
    (Flt.fin m (-(k : Int))).micro? = some (m * 10 ^ (6 - k)) := by
  unfold Flt.micro?
  simp only
  split
  · next hm => rw [hm, Int.zero_mul]
  · rw [if_pos (by omega), if_neg (by omega), show (-(k : Int) + 6).toNat = 6 - k by omega]

theorem numValue_small (neg : Bool) (m sig : Nat) (e : Int) (he : e ≤ 0) (hs : -330 ≤ (sig : Int) + e) (hm : m < 10 ^ 20) :
    numValue neg m sig e = if m = 0 then .fin 0 0 else .fin (if neg then -(m : Int) else m) e := by
  unfold numValue
  split
  · rfl
  · rw [if_neg (by omega), isFinite_small _ e he (by cases neg <;> simpa using hm), if_pos rfl]

theorem numValue_micro (neg : Bool) (m sig k : Nat) (hk : k ≤ 6) (hm : m < 10 ^ 20) :
    (numValue neg m sig (-(k : Int))).micro? = some ((if neg then -(m : Int) else m) * 10 ^ (6 - k)) := by
  rw [numValue_small neg m sig _ (by omega) (by omega) hm]
  split
  · next h => subst h; cases neg <;> simp [Flt.micro?]
  · exact micro_small _ k hk

/-- `trim_end_matches('0')` as the writer model does it -/
def stripZeros (l : List Char) : List Char := (l.reverse.dropWhile (· == '0')).reverse

theorem stripZeros_spec (l : List Char) :
    (∀ c ∈ stripZeros l, c ∈ l) ∧ (stripZeros l).length ≤ l.length ∧
      digitsVal (stripZeros l) * 10 ^ (l.length - (stripZeros l).length) = digitsVal l := by
  obtain ⟨z, hz⟩ : ∃ z, l = stripZeros l ++ List.replicate z '0' := by
    refine ⟨(l.reverse.takeWhile (· == '0')).length, ?_⟩
    have hz : l.reverse.takeWhile (· == '0') = List.replicate (l.reverse.takeWhile (· == '0')).length '0' :=
      List.eq_replicate_iff.mpr ⟨rfl, fun c hc => by simpa using List.all_eq_true.mp List.all_takeWhile c hc⟩
    have h := congrArg List.reverse (List.takeWhile_append_dropWhile (p := (· == '0')) (l := l.reverse))
    rw [List.reverse_append, List.reverse_reverse, hz, List.reverse_replicate] at h
    exact h.symm
  generalize stripZeros l = s at hz
  subst hz
  refine ⟨fun c hc => List.mem_append_left _ hc, by simp, ?_⟩
  rw [List.length_append, List.length_replicate, Nat.add_sub_cancel_left, digitsVal_append, List.length_replicate,
    digitsVal_replicate_zero, Nat.add_zero]

theorem natPad_spec (n w : Nat) (hw : 0 < w) (h : n < 10 ^ w) :
    (natPad n w).length = w ∧ (natPad n w).all isDigit = true ∧ digitsVal (natPad n w) = n :=
  zeroPadded_spec n w hw h

/-- the original value rounded to five decimals (half away from zero), in units of 10⁻⁶ -/
def rounded5 (v : Int) : Int :=
  let r5 : Nat := (v.natAbs + 5) / 10
  if v < 0 then -((r5 * 10 : Nat) : Int) else ((r5 * 10 : Nat) : Int)

/-- what `print_float` writes: the decimal `[-] digits . fraction` of the magnitude rounded to five places, the
fraction given by one to five digits (`stripZeros` has taken the trailing zeros off); no sign on a zero -/
theorem printFloat_decimal (v : Int) :
    let r5 : Nat := (v.natAbs + 5) / 10
    ∃ fpd : List Char, fpd.all isDigit = true ∧ 1 ≤ fpd.length ∧ fpd.length ≤ 5 ∧
      digitsVal fpd * 10 ^ (5 - fpd.length) = r5 % 100000 ∧
      (printFloat v).1 = signed (decide (v < 0) && r5 != 0) (natDigits (r5 / 100000) ++ '.' :: fpd) := by
  intro r5
  by_cases h0 : r5 % 100000 = 0
  · refine ⟨['0'], rfl, by decide, by decide, by rw [h0]; rfl, ?_⟩
    simp only [printFloat, r5, h0, if_true]
    rfl
  · obtain ⟨plen, pall, pval⟩ := natPad_spec (r5 % 100000) 5 (by decide) (Nat.mod_lt _ (by decide))
    obtain ⟨smem, slen, sval⟩ := stripZeros_spec (natPad (r5 % 100000) 5)
    rw [plen] at slen sval
    rw [pval] at sval
    refine ⟨stripZeros (natPad (r5 % 100000) 5), List.all_eq_true.mpr fun c hc => List.all_eq_true.mp pall c (smem c hc),
      Nat.pos_of_ne_zero fun hl => ?_, slen, sval, ?_⟩
    · -- not all five digits were zeros
      rw [List.length_eq_zero_iff.mp hl] at sval
      exact h0 (sval.symm.trans (Nat.zero_mul _))
    · simp only [printFloat, r5, h0, if_false]
      rfl

/-- **`print_float` is read back exactly**: for every value of realistic magnitude the text the writer produces
is a CIF number whose value is the original rounded to five decimals -/
theorem C04_print_float_read_back (v : Int) (hv : v.natAbs < 10 ^ 18) :
    ∃ f sig, parseNumeric (printFloat v).1 = some (.num f sig (printFloat v).1) ∧
      f.micro? = some (rounded5 v) := by
  obtain ⟨fpd, hfall, hflen1, hflen5, hfval, htext⟩ := printFloat_decimal v
  obtain ⟨hine, hiall, hival⟩ := natDigits_spec ((v.natAbs + 5) / 10 / 100000)
  generalize hr5 : (v.natAbs + 5) / 10 = r5 at *
  rw [htext, parseNumeric_decimal _ _ fpd hine hiall hfall]
  refine ⟨_, _, rfl, ?_⟩
  -- the mantissa read back, in units of 10⁻⁶, is the rounded magnitude
  have hvalue : digitsVal (natDigits (r5 / 100000) ++ fpd) * 10 ^ (6 - fpd.length) = r5 * 10 := by
    rw [digitsVal_append, hival, show 6 - fpd.length = (5 - fpd.length) + 1 by omega, Nat.pow_succ, ← Nat.mul_assoc,
      Nat.add_mul, Nat.mul_assoc (r5 / 100000), ← Nat.pow_add, show fpd.length + (5 - fpd.length) = 5 by omega, hfval,
      Nat.div_add_mod' r5 100000]
  generalize digitsVal (natDigits (r5 / 100000) ++ fpd) = mant at hvalue ⊢
  have hmlt : mant < 10 ^ 20 := by
    have : mant ≤ r5 * 10 := by
      rw [← hvalue]
      exact Nat.le_mul_of_pos_right _ (Nat.pow_pos (by decide))
    omega
  rw [show (0 : Int) - (fpd.length : Int) = -(fpd.length : Int) by omega, numValue_micro _ _ _ _ (by omega) hmlt]
  have hcast : (mant : Int) * 10 ^ (6 - fpd.length) = ((r5 * 10 : Nat) : Int) := by exact_mod_cast hvalue
  unfold rounded5
  rw [hr5]
  generalize (mant : Int) = m at hcast
  rcases Nat.eq_zero_or_pos r5 with h0 | h0
  · -- zero is written without a sign
    have hm0 : m * 10 ^ (6 - fpd.length) = 0 := by rw [hcast, h0]; rfl
    simp [h0, hm0]
  · have : (r5 != 0) = true := by simpa using Nat.ne_of_gt h0
    by_cases hneg : v < 0 <;> simp [hneg, this, ← hcast, Int.neg_mul]

end PdbModel
