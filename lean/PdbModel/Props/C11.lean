/-
C11 — sorting and renumbering give canonical order; binary lookup equals linear scan.
-/
import PdbModel.Lemmas.Sort
import PdbModel.Lemmas.Renumber
import PdbModel.Lemmas.BSearch
import PdbModel.Lemmas.List
import PdbModel.Lemmas.Hier
namespace PdbModel

/-- at every level: the result is ordered, is a permutation of the input, and every already ordered
sub-sequence of the input (in particular every pair of tied elements) keeps its relative order -/
theorem C11_sort_atoms (c : Conformer) :
    c.sort.atoms.Pairwise (fun a b => atomLe a b = true) ∧ c.sort.atoms.Perm c.atoms ∧
    (∀ ys : List Atom, ys.Pairwise (fun a b => atomLe a b = true) → ys.Sublist c.atoms → ys.Sublist c.sort.atoms) ∧
    c.sort.name = c.name ∧ c.sort.alt = c.alt :=
  ⟨(sort_spec atomLe atomLe_order _).1, (sort_spec atomLe atomLe_order _).2.1,
   (sort_spec atomLe atomLe_order _).2.2, rfl, rfl⟩

theorem C11_sort_conformers (r : Residue) :
    r.sort.conformers.Pairwise (fun a b => confLe a b = true) ∧ r.sort.conformers.Perm r.conformers ∧
    (∀ ys : List Conformer, ys.Pairwise (fun a b => confLe a b = true) → ys.Sublist r.conformers → ys.Sublist r.sort.conformers) :=
  sort_spec confLe confLe_order _

theorem C11_sort_residues (c : Chain) :
    c.sort.residues.Pairwise (fun a b => resLe a b = true) ∧ c.sort.residues.Perm c.residues ∧
    (∀ ys : List Residue, ys.Pairwise (fun a b => resLe a b = true) → ys.Sublist c.residues → ys.Sublist c.sort.residues) :=
  sort_spec resLe resLe_order _

theorem C11_sort_chains (m : Model) :
    m.sort.chains.Pairwise (fun a b => chainLe a b = true) ∧ m.sort.chains.Perm m.chains ∧
    (∀ ys : List Chain, ys.Pairwise (fun a b => chainLe a b = true) → ys.Sublist m.chains → ys.Sublist m.sort.chains) :=
  sort_spec chainLe chainLe_order _

theorem C11_sort_models (p : PDB) :
    p.sort.models.Pairwise (fun a b => modelLe a b = true) ∧ p.sort.models.Perm p.models ∧
    (∀ ys : List Model, ys.Pairwise (fun a b => modelLe a b = true) → ys.Sublist p.models → ys.Sublist p.sort.models) :=
  sort_spec modelLe modelLe_order _

/-- after a full sort every level is ordered and the atoms are a rearrangement of the original atoms -/
theorem C11_full_sort (p : PDB) :
    p.fullSort.models.Pairwise (fun a b => modelLe a b = true) ∧
    (∀ m ∈ p.fullSort.models, m.chains.Pairwise (fun a b => chainLe a b = true) ∧
      ∀ c ∈ m.chains, c.residues.Pairwise (fun a b => resLe a b = true) ∧
        ∀ r ∈ c.residues, r.conformers.Pairwise (fun a b => confLe a b = true) ∧
          ∀ f ∈ r.conformers, f.atoms.Pairwise (fun a b => atomLe a b = true)) ∧
    p.fullSort.atoms.Perm p.atoms := by
  refine ⟨pairwise_map_mergeSort _ modelLe_order _ (fun _ _ => by rfl) _, List.forall_mem_map.mpr fun m _ => ?_, ?_⟩
  · refine ⟨pairwise_map_mergeSort _ chainLe_order _ (fun _ _ => by rfl) _, List.forall_mem_map.mpr fun c _ => ?_⟩
    refine ⟨pairwise_map_mergeSort _ resLe_order _ (fun _ _ => by rfl) _, List.forall_mem_map.mpr fun r _ => ?_⟩
    refine ⟨pairwise_map_mergeSort _ confLe_order _ (fun _ _ => by rfl) _, List.forall_mem_map.mpr fun f _ => ?_⟩
    exact List.pairwise_mergeSort atomLe_order.trans atomLe_order.total _
  · exact perm_flatMap_map_mergeSort _ _ _ _ fun m _ =>
      perm_flatMap_map_mergeSort _ _ _ _ fun c _ =>
        perm_flatMap_map_mergeSort _ _ _ _ fun r _ =>
          perm_flatMap_map_mergeSort _ _ _ _ fun f _ => List.mergeSort_perm _ _

/-- model numbers, per-model atom serials and residue numbers count up from one in traversal order,
insertion codes are cleared, alternate locations are cleared in single-conformer residues and letter
codes otherwise, chain ids are letter codes per model -/
theorem C11_renumber (p : PDB) :
    p.renumber.models.map (·.serial) = List.range' 1 p.models.length ∧
    ∀ m ∈ p.renumber.models,
      m.atoms.map (·.serial) = List.range' 1 m.atoms.length ∧
      m.residues.map (·.serial) = (List.range' 1 m.residues.length).map Int.ofNat ∧
      (∀ r ∈ m.residues, r.icode = none ∧
        (r.conformers.length ≤ 1 → ∀ c ∈ r.conformers, c.alt = none) ∧
        (r.conformers.length > 1 →
          r.conformers.map (·.alt) = (List.range' 0 r.conformers.length).map fun k => some (numberToBase26 k))) ∧
      m.chains.map (·.id) = (List.range' 0 m.chains.length).map numberToBase26 := by
  refine ⟨renumModels_serials 1 p.models, fun m hm => ?_⟩
  obtain ⟨m0, _, hch⟩ := mem_renumModels 1 p.models m hm
  -- a model is renumbered as its flat residue list is, and that as its flat atom list
  have hres : m.residues = (renumResidues 1 1 m0.residues).1 := by
    rw [Model.residues, hch, renumChains_residues]; rfl
  have hat : m.atoms = (renumAtoms 1 (m0.residues.flatMap (·.atoms))).1 := by
    rw [← renumResidues_atoms 1 1, ← hres, Model.atoms, Model.residues, List.flatMap_assoc]; rfl
  rw [hat, hres, hch]
  exact ⟨renumAtoms_serials .., renumResidues_serials .., renumResidues_each 1 1 _, renumChains_ids ..⟩

/-- the letter codes handed out are pairwise distinct -/
theorem C11_letter_codes_distinct (n : Nat) : ((List.range' 0 n).map numberToBase26).Nodup :=
  List.Pairwise.map numberToBase26 (fun a b hne he => hne (numberToBase26_injective a b he)) List.nodup_range'

/-- renumbering twice changes nothing more -/
theorem C11_renumber_idem (p : PDB) : p.renumber.renumber = p.renumber := by
  unfold PDB.renumber; simp only [renumModels_idem]

/-- generic: on a list partitioned by the probe, bisection returns what the linear scan returns -/
theorem C11_bsearch_eq_find {α} (probe : α → Ordering) (l : List α) (hg : Good probe l) :
    bsearch probe l.length l = l.find? (fun x => probe x == .eq) :=
  bsearch_eq_find probe l.length l hg (Nat.le_refl _)

/-- conformer level: with ascending serial numbers (what sorting / renumbering establishes) the
binary lookup is the linear scan for that serial number -/
theorem C11_conformer_binfind (c : Conformer) (serial : Nat)
    (h : c.atoms.Pairwise (fun a b => a.serial < b.serial)) :
    c.binaryFindAtom serial = c.atoms.find? (fun a => a.serial == serial) := by
  unfold Conformer.binaryFindAtom
  rw [C11_bsearch_eq_find]
  · congr 1; funext a
    exact Bool.eq_iff_iff.mpr (by simp)
  · exact h.imp fun hab ha => Nat.compare_eq_gt.mpr (Nat.lt_of_le_of_lt (Nat.compare_ne_lt.mp ha) hab)

theorem conformer_probe_eq_scan (c : Conformer) (serial : Nat) (alt : Option String)
    (h : c.atoms.Pairwise (fun a b => a.serial < b.serial)) :
    c.probeFind serial alt = c.withH.find? (fun h => h.atom.serial = serial ∧ h.conformer.alt = alt) := by
  unfold Conformer.probeFind Conformer.withH
  rw [List.find?_map]
  by_cases halt : c.alt = alt
  · have hscan : (List.find? ((fun (h : HAC) => decide (h.atom.serial = serial ∧ h.conformer.alt = alt)) ∘
        fun a => (⟨a, c⟩ : HAC)) c.atoms) = c.atoms.find? (fun a => a.serial == serial) := by
      congr 1; funext a
      exact Bool.eq_iff_iff.mpr (by simp [halt])
    rw [if_pos halt, hscan]
    by_cases hne : c.atoms = []
    · rw [hne]; rfl
    · rw [List.head?_eq_some_head hne, List.getLast?_eq_some_getLast hne]
      dsimp only
      split
      · rw [C11_conformer_binfind c serial h]
      · next hr =>
        -- outside the serial range of the conformer the scan finds nothing either
        rw [List.find?_eq_none.mpr]
        · rfl
        · intro a ha he
          have := ends_of_sorted _ hne h a ha
          exact hr (by rw [← beq_iff_eq.mp he]; exact this)
  · rw [if_neg halt]
    symm
    rw [Option.map_eq_none_iff, List.find?_eq_none]
    intro a _
    simp [halt]

/-- **residue level**: with ascending serial numbers inside every conformer, `Residue::binary_find_atom`
returns exactly what the linear scan over the residue's (atom, conformer) pairs returns -/
theorem C11_residue_binfind (r : Residue) (serial : Nat) (alt : Option String)
    (h : ∀ c ∈ r.conformers, c.atoms.Pairwise (fun a b => a.serial < b.serial)) :
    r.binaryFindAtom serial alt =
      r.withHAC.find? (fun h => h.atom.serial = serial ∧ h.conformer.alt = alt) := by
  unfold Residue.binaryFindAtom Residue.withHAC
  rw [List.find?_flatMap]
  exact findSome_congr _ _ _ fun c mc => conformer_probe_eq_scan c serial alt (h c mc)

/-! chain and model level: bisection over the children's serial ranges, then the child's lookup -/

/-- **chain level**: on a chain whose atoms ascend in traversal order (what `renumber` establishes) and that
has no atom-less residue, `Chain::binary_find_atom` does not panic and returns exactly what the linear scan
over the chain's (atom, conformer, residue) tuples returns -/
theorem C11_chain_binfind (c : Chain) (serial : Nat) (alt : Option String)
    (hne : ∀ r ∈ c.residues, r.atoms ≠ [])
    (hs : c.atoms.Pairwise (fun a b => a.serial < b.serial)) :
    c.binaryFindAtom serial alt =
      some (c.withHACR.find? (fun h => h.atom.serial = serial ∧ h.conformer.alt = alt)) := by
  obtain ⟨hin, hcross⟩ := List.pairwise_flatMap.mp hs
  have hres : ∀ r ∈ c.residues, r.binaryFindAtom serial alt =
      r.withHAC.find? (fun h => h.atom.serial = serial ∧ h.conformer.alt = alt) := fun r mr =>
    C11_residue_binfind r serial alt fun cf mcf => (List.pairwise_flatMap.mp (hin r mr)).1 cf mcf
  unfold Chain.binaryFindAtom Chain.withHACR
  rw [if_neg (by simpa using hne), find_flatMap_map]
  refine congrArg some ((level_lookup Residue.atoms _ serial c.residues hne hin hcross ?_).trans
    (findSome_congr _ _ _ fun r mr => by rw [hres r mr]; rfl))
  intro r mr hno
  rw [hres r mr, Option.map_eq_none_iff, List.find?_eq_none]
  intro h mh
  simp [hno _ (r.map_atom_withHAC ▸ List.mem_map_of_mem mh)]

theorem C11_model_binfind (m : Model) (serial : Nat) (alt : Option String)
    (hnec : ∀ c ∈ m.chains, c.atoms ≠ [])
    (hner : ∀ c ∈ m.chains, ∀ r ∈ c.residues, r.atoms ≠ [])
    (hs : m.atoms.Pairwise (fun a b => a.serial < b.serial)) :
    m.binaryFindAtom serial alt =
      some (m.withHACRC.find? (fun h => h.atom.serial = serial ∧ h.conformer.alt = alt)) := by
  obtain ⟨hin, hcross⟩ := List.pairwise_flatMap.mp hs
  have hgood := probeL_good Chain.atoms serial m.chains hnec hin hcross
  unfold Model.binaryFindAtom Model.withHACRC
  rw [if_neg (by simpa using hnec), find_flatMap_map,
    ← level_lookup Chain.atoms _ serial m.chains hnec hin hcross]
  · -- the chain found by bisection is one of the chains, so its own lookup is the chain-level theorem
    show (match bsearch (probeL Chain.atoms serial) m.chains.length m.chains with
      | none => some none | some c => _) = _
    cases hb : bsearch (probeL Chain.atoms serial) m.chains.length m.chains with
    | none => rfl
    | some c =>
      have mc : c ∈ m.chains :=
        List.mem_of_find?_eq_some ((C11_bsearch_eq_find _ _ hgood).symm.trans hb)
      dsimp only
      rw [C11_chain_binfind c serial alt (hner c mc) (hin c mc)]
      rfl
  · intro c mc hno
    rw [Option.map_eq_none_iff, List.find?_eq_none]
    intro h mh
    simp [hno _ (c.map_atom_withHACR ▸ List.mem_map_of_mem mh)]

/-- **structure level**: `PDB::binary_find_atom` (first model) equals the linear scan, on every structure whose
first model has ascending serial numbers in traversal order and no atom-less chain or residue -/
theorem C11_pdb_binfind (p : PDB) (serial : Nat) (alt : Option String)
    (h : ∀ m, p.models.head? = some m →
      (∀ c ∈ m.chains, c.atoms ≠ []) ∧ (∀ c ∈ m.chains, ∀ r ∈ c.residues, r.atoms ≠ []) ∧
      m.atoms.Pairwise (fun a b => a.serial < b.serial)) :
    p.binaryFindAtom serial alt = some (p.linearFindAtom serial alt) := by
  unfold PDB.binaryFindAtom PDB.linearFindAtom
  cases hm : p.models with
  | nil => rfl
  | cons m rest =>
    obtain ⟨h1, h2, h3⟩ := h m (by rw [hm]; rfl)
    simp only [C11_model_binfind m serial alt h1 h2 h3, Option.map_some]

/-- non-vacuity: a renumbered two-chain structure satisfies the ascending-serial hypothesis -/
example :
    let a : Atom := default
    let p : PDB := ⟨[⟨7, [⟨"x", [⟨5, some "A", [⟨"ALA", none, [a, a], none⟩, ⟨"ALA", some "Q", [a], none⟩]⟩]⟩, ⟨"y", [⟨5, none, [⟨"GLY", some "Z", [a], none⟩]⟩]⟩]⟩]⟩
    p.renumber.atoms.map (·.serial) = [1, 2, 3, 4] ∧ p.renumber.chains.map (·.id) = ["A", "B"] ∧
    p.renumber.conformers.map (·.alt) = [some "A", some "B", none] := by
  decide

end PdbModel
