/-
C03 — the ATOM / HETATM record: what the writer model puts into its columns, the lexer model reads back.
A printed line is the concatenation of its cells; when the cells up to column `b` are one-byte characters, the
byte range a field lexer cuts out is the cell written there (`fieldW_getLine`).  The field round trips
(`Props/C03.lean`, and `C03_int_field_round_trip` for signed numbers below) do the rest.
-/
import PdbModel.PdbWrite
import PdbModel.PdbLex
import PdbModel.Lemmas.PdbLine
import PdbModel.Props.C03
namespace PdbModel

/-- identifiers of the atom's place in the hierarchy are ASCII (what `valid_identifier` guarantees) -/
def AsciiIds (a : Atom) (c : Conformer) (r : Residue) (ch : Chain) : Prop :=
  Ascii a.name.toList ∧ Ascii (c.alt.getD " ").toList ∧ Ascii c.name.toList ∧ Ascii ch.id.toList ∧
  Ascii (r.icode.getD " ").toList

/-- the cells of an ATOM / HETATM record up to the B factor, those of `atomLinePrefix` spliced in -/
def atomFields (a : Atom) (c : Conformer) (r : Residue) (ch : Chain) : List (Nat × List Char) :=
  [(6, if a.hetero then S "HETATM" else S "ATOM  "), (5, natDigits a.serial), (0, S " "), (4, S a.name),
    (1, (c.alt.getD " ").toList), (4, S c.name), (1, S ch.id), (4, intText r.serial), (1, (r.icode.getD " ").toList),
    (0, S "   "), (8, fmtFixed a.x 8 3), (8, fmtFixed a.y 8 3), (8, fmtFixed a.z 8 3), (6, fmtFixed a.occ 6 2),
    (6, fmtFixed a.b 6 2)]

theorem atomLine_eq (lvl : Strictness) (a : Atom) (c : Conformer) (r : Residue) (ch : Chain) :
    ∃ tail, atomLine lvl a c r ch = getLine (atomFields a c r ch) ++ tail := by
  unfold atomLine atomLinePrefix
  rw [printLine_eq]
  generalize List.replicate _ ' ' = pad
  refine ⟨getLine [(0, S "          "), (2, elementSymbol a.element), (0, pdbCharge a.charge)] ++ pad, ?_⟩
  rw [← List.append_assoc, ← getLine_append]
  exact congrArg (· ++ pad) (getLine_splice [_] _ _)

theorem atomFields_widths (a : Atom) (c : Conformer) (r : Residue) (ch : Chain) :
    (atomFields a c r ch).map fieldWidth = [6, 5, 1, 4, 1, 4, 1, 4, 1, 3, 8, 8, 8, 6, 6] := rfl

theorem ascii_tag (a : Atom) : Ascii (if a.hetero then S "HETATM" else S "ATOM  ") := by
  split <;> decide

theorem ascii_atomFields {a : Atom} {c : Conformer} {r : Residue} {ch : Chain} (h : AsciiIds a c r ch) (k : Nat) :
    ∀ f ∈ (atomFields a c r ch).take k, Ascii f.2 := by
  obtain ⟨h1, h2, h3, h4, h5⟩ := h
  suffices ∀ f ∈ atomFields a c r ch, Ascii f.2 from fun f hf => this f (List.mem_of_mem_take hf)
  simp only [atomFields, List.forall_mem_cons]
  exact ⟨ascii_tag a, ascii_natDigits _, by decide, h1, h2, h3, h4, ascii_intText _, h5, by decide, ascii_fmtFixed _ _ _,
    ascii_fmtFixed _ _ _, ascii_fmtFixed _ _ _, ascii_fmtFixed _ _ _, ascii_fmtFixed _ _ _, fun _ h => nomatch h⟩

/-- the value the reader obtains from a fixed-point column: the original rounded to `d` decimals -/
def roundedTo (v : Int) (d : Nat) : Flt :=
  let q : Nat := (v.natAbs + 10 ^ (6 - d) / 2) / 10 ^ (6 - d)
  .fin (if v < 0 then -1 * (q : Int) else (q : Int)) (-(d : Int))

theorem fixed_cell_round_trip (v : Int) (w d : Nat) (hw : 0 < w) (hd : 1 ≤ d) (hd6 : d ≤ 6)
    (hfit : (fmtFixed v w d).length = w) : parseF64 (trim (cell w (fmtFixed v w d))) = some (roundedTo v d) := by
  have hnd : (fmtFixed v w d).all isDigit = false := by
    obtain ⟨k, fpd, _, _, _, htext⟩ := fmtFixed_decimal v w d hd
    rw [List.all_eq_false, htext]
    exact ⟨'.', by unfold signed; split <;> simp, by decide⟩
  rw [C03_cell_text w _ hw (by omega) hnd, hfit, Nat.sub_self, List.replicate_zero, List.append_nil]
  exact C03_fixed_field_round_trip v w d hd hd6

/-- **the numeric columns of an ATOM / HETATM record**: for an atom whose coordinates, occupancy and B factor
fit their columns (what `validate_pdb` checks), the record written at any writer level is lexed back with
x, y, z rounded to three and occupancy, B factor rounded to two decimals, without a diagnostic -/
theorem C03_atom_record_numbers (lvl : Strictness) (ln : Nat) (a : Atom) (c : Conformer) (r : Residue) (ch : Chain)
    (hids : AsciiIds a c r ch)
    (hx : (fmtFixed a.x 8 3).length = 8) (hy : (fmtFixed a.y 8 3).length = 8) (hz : (fmtFixed a.z 8 3).length = 8)
    (ho : (fmtFixed a.occ 6 2).length = 6) (hb : (fmtFixed a.b 6 2).length = 6) :
    let line := atomLine lvl a c r ch
    fF64 ln line 30 38 = (roundedTo a.x 3, []) ∧ fF64 ln line 38 46 = (roundedTo a.y 3, []) ∧
    fF64 ln line 46 54 = (roundedTo a.z 3, []) ∧
    fieldW parseF64 (.fin 1 0) ln line 54 60 = (roundedTo a.occ 2, []) ∧ fF64 ln line 60 66 = (roundedTo a.b 2, []) := by
  intro line
  obtain ⟨tail, h⟩ := atomLine_eq lvl a c r ch
  rw [show line = _ from h]
  have hw := atomFields_widths a c r ch
  exact ⟨fieldW_getLine parseF64 _ ln tail 10 30 38 rfl hw rfl rfl (ascii_atomFields hids _)
      (fixed_cell_round_trip a.x 8 3 (by decide) (by decide) (by decide) hx),
    fieldW_getLine parseF64 _ ln tail 11 38 46 rfl hw rfl rfl (ascii_atomFields hids _)
      (fixed_cell_round_trip a.y 8 3 (by decide) (by decide) (by decide) hy),
    fieldW_getLine parseF64 _ ln tail 12 46 54 rfl hw rfl rfl (ascii_atomFields hids _)
      (fixed_cell_round_trip a.z 8 3 (by decide) (by decide) (by decide) hz),
    fieldW_getLine parseF64 _ ln tail 13 54 60 rfl hw rfl rfl (ascii_atomFields hids _)
      (fixed_cell_round_trip a.occ 6 2 (by decide) (by decide) (by decide) ho),
    fieldW_getLine parseF64 _ ln tail 14 60 66 rfl hw rfl rfl (ascii_atomFields hids _)
      (fixed_cell_round_trip a.b 6 2 (by decide) (by decide) (by decide) hb)⟩

/-- **the serial number column**: a serial number that fits its five columns is lexed back unchanged -/
theorem C03_atom_record_serial (lvl : Strictness) (ln : Nat) (a : Atom) (c : Conformer) (r : Residue) (ch : Chain)
    (hs : a.serial ≤ 99999) :
    fUsize ln (atomLine lvl a c r ch) 6 11 = (a.serial, []) := by
  obtain ⟨tail, h⟩ := atomLine_eq lvl a c r ch
  rw [h]
  exact fieldW_getLine parseUsize 0 ln tail 1 6 11 rfl (atomFields_widths a c r ch) rfl rfl
    (List.forall_mem_cons.mpr ⟨ascii_tag a, List.forall_mem_cons.mpr ⟨ascii_natDigits _, fun _ h => nomatch h⟩⟩)
    (C03_nat_field_round_trip 4 a.serial (by omega) (by omega))

/-- **a signed whole number survives its field**: `to_string` of an integer that fits the cell, trimmed and parsed
by the reader, is the same integer (residue numbers, negative ones included) -/
theorem C03_int_field_round_trip (w : Nat) (n : Int) (hw : 0 < w) (hfit : (intText n).length ≤ w)
    (hn : n.natAbs < 2 ^ 63) : parseIsize (trim (cell w (intText n))) = some n := by
  obtain ⟨hne, hall, hval⟩ := natDigits_spec n.natAbs
  by_cases hneg : n < 0
  · -- the minus sign keeps the cell from being taken for a number
    have htext : intText n = '-' :: natDigits n.natAbs := if_pos hneg
    have hnd : (intText n).all isDigit = false := by rw [htext]; rfl
    rw [C03_cell_text w _ hw hfit hnd, trim_number_padded _ _ (numChar_intText n), htext,
      show parseIsize ('-' :: natDigits n.natAbs) = _ from parseIsize_digits true _ hne hall, hval, if_pos rfl,
      if_pos (by omega)]
    congr 1; omega
  · have htext : intText n = natDigits n.natAbs := if_neg hneg
    rw [htext] at hfit ⊢
    obtain ⟨s, hs, hne', hd', hv⟩ := trim_cell_digits w _ hw hne hfit hall
    rw [hs, show parseIsize s = _ from parseIsize_digits false s hne' hd', hv, hval, if_neg (by decide), if_pos hn]
    congr 1; omega

/-- **the residue number column**: a residue number that fits its four columns (−999 … 9999) is lexed back
unchanged -/
theorem C03_atom_record_resseq (lvl : Strictness) (ln : Nat) (a : Atom) (c : Conformer) (r : Residue) (ch : Chain)
    (hids : AsciiIds a c r ch) (hfit : (intText r.serial).length ≤ 4) (hn : r.serial.natAbs < 2 ^ 63) :
    fIsize ln (atomLine lvl a c r ch) 22 26 = (r.serial, []) := by
  obtain ⟨tail, h⟩ := atomLine_eq lvl a c r ch
  rw [h]
  exact fieldW_getLine parseIsize 0 ln tail 7 22 26 rfl (atomFields_widths a c r ch) rfl rfl
    (ascii_atomFields hids _)
    (C03_int_field_round_trip 4 r.serial (by decide) hfit hn)

/-- a text the writer's cell keeps and the reader's trim returns: fits, is not a zero-led number, has no blank
at either end -/
def CellSafe (w : Nat) (t : List Char) : Prop :=
  t.length ≤ w ∧ t.all isDigit = false ∧ (∀ c, t.head? = some c → isRustWs c = false) ∧
  (∀ c, t.getLast? = some c → isRustWs c = false)

/-- **the atom name and residue name columns**: names that fit (4 and 3 characters) are lexed back unchanged -/
theorem C03_atom_record_names (lvl : Strictness) (ln : Nat) (a : Atom) (c : Conformer) (r : Residue) (ch : Chain)
    (hids : AsciiIds a c r ch) (hname : CellSafe 4 (S a.name)) (hres : CellSafe 3 (S c.name)) :
    fStr ln (atomLine lvl a c r ch) 12 16 = (S a.name, []) ∧ fStr ln (atomLine lvl a c r ch) 17 20 = (S c.name, []) := by
  obtain ⟨tail, h⟩ := atomLine_eq lvl a c r ch
  obtain ⟨hl, hnd, hh, hla⟩ := hres
  -- the residue name cell is four wide; the reader looks at its first three columns
  have hcell : cell 4 (S c.name) = cell 3 (S c.name) ++ [' '] := by
    rw [C03_cell_text 4 _ (by decide) (by omega) hnd, C03_cell_text 3 _ (by decide) hl hnd,
      show 4 - (S c.name).length = 3 - (S c.name).length + 1 by omega, List.replicate_succ', List.append_assoc]
  rw [h]
  exact ⟨fieldW_getLine _ [] ln tail 3 12 16 rfl (atomFields_widths a c r ch) rfl rfl (ascii_atomFields hids _)
      (congrArg some (C03_cell_text_round_trip 4 _ (by decide) hname.1 hname.2.1 hname.2.2.1 hname.2.2.2)),
    fieldW_getLine_prefix _ [] ln tail 5 17 20 rfl hcell (atomFields_widths a c r ch) rfl
      (by rw [C03_cell_width 3 _ (by decide)]) (ascii_atomFields hids _) (ascii_cell _ _ hids.2.2.1)
      (congrArg some (C03_cell_text_round_trip 3 _ (by decide) hl hnd hh hla))⟩

end PdbModel
