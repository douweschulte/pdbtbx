/-
C01 — the SEQRES checks (`validate_seqres`) add no atom and lose none: whatever the SEQRES records say, the
chain they are held against keeps exactly its residues, possibly joined by atom-less residues made from SEQRES
names and put in residue order; hence the atoms of the structure after the checks are a rearrangement of the
atoms before them, and for a chain the records describe completely (every name finds its residue) nothing moves.
-/
import PdbModel.PdbRead
import PdbModel.Lemmas.List
namespace PdbModel

theorem seqresResidue_atoms (seq : List Char) (index : Int) (r : Residue) (h : seqresResidue seq index = some r) :
    r.atoms = [] := by
  unfold seqresResidue at h
  cases hp : prepIdUpS (String.ofList seq) with
  | none => rw [hp] at h; cases h
  | some n => rw [hp] at h; cases h; rfl

theorem seqStep_residues (st : SeqSt) (index : Int) (seq : List Char) (pos : Nat × Nat) :
    (seqStep st index seq pos).residues = st.residues ∨
    ∃ r, seqresResidue seq index = some r ∧
      (seqStep st index seq pos).residues = (st.residues ++ [r]).mergeSort resLe := by
  unfold seqStep
  simp only
  split
  · split
    · split <;> (try split) <;> exact Or.inl rfl
    · split
      · cases seqresResidue seq index with
        | none => exact Or.inl rfl
        | some r => exact Or.inr ⟨r, rfl, rfl⟩
      · split <;> exact Or.inl rfl
  · cases seqresResidue seq index with
    | none => exact Or.inl rfl
    | some r => exact Or.inr ⟨r, rfl, rfl⟩

/-- the residues the walk works on are the chain's residues plus residues made from SEQRES names of the walk -/
def SeqInv (orig : List Residue) (names : List (List Char)) (st : SeqSt) : Prop :=
  ∃ ins : List Residue, (∀ r ∈ ins, ∃ seq ∈ names, ∃ idx, seqresResidue seq idx = some r) ∧
    List.Perm st.residues (orig ++ ins)

theorem seqStep_inv (orig : List Residue) (names : List (List Char)) (st : SeqSt) (index : Int) (seq : List Char)
    (pos : Nat × Nat) (hseq : seq ∈ names) (h : SeqInv orig names st) : SeqInv orig names (seqStep st index seq pos) := by
  obtain ⟨ins, hfrom, hperm⟩ := h
  rcases seqStep_residues st index seq pos with e | ⟨r, hr, e⟩
  · exact ⟨ins, hfrom, e ▸ hperm⟩
  · refine ⟨ins ++ [r], ?_, ?_⟩
    · intro x hx
      rcases List.mem_append.mp hx with hx | hx
      · exact hfrom x hx
      · rw [List.mem_singleton.mp hx]; exact ⟨seq, hseq, index, hr⟩
    · rw [e, ← List.append_assoc]
      exact (List.mergeSort_perm _ _).trans (hperm.append_right [r])

/-- **every residue of a chain after the SEQRES checks is a residue it had, or an atom-less residue named by one of
the chain's own SEQRES names** -/
theorem C01_seqres_inserted_from_records (ch : Chain) (db : Option DbRef) (cid : Char)
    (data : List (Nat × Nat × List (List Char))) (lines : List (Nat × List Char)) :
    ∃ ins : List Residue,
      (∀ r ∈ ins, ∃ seq ∈ (seqresNames data).map (·.1), ∃ idx, seqresResidue seq idx = some r) ∧
      List.Perm (validateSeqresChain ch db cid data lines).1.residues (ch.residues ++ ins) := by
  unfold validateSeqresChain seqresWalk
  show SeqInv ch.residues ((seqresNames data).map (·.1)) (List.foldl _ _ _)
  apply List.foldlRecOn
  · exact ⟨[], fun _ hx => (by cases hx), by simp⟩
  · intro st hst ri hri
    exact seqStep_inv _ _ st _ _ _ (List.mem_map.mpr ⟨ri.2, (List.of_mem_zip hri).2, rfl⟩) hst

/-- **a chain keeps exactly its atoms through the SEQRES checks** (as a multiset: inserting an atom-less residue
re-sorts the chain) -/
theorem C01_seqres_chain_keeps_atoms (ch : Chain) (db : Option DbRef) (cid : Char)
    (data : List (Nat × Nat × List (List Char))) (lines : List (Nat × List Char)) :
    List.Perm (validateSeqresChain ch db cid data lines).1.atoms ch.atoms := by
  obtain ⟨ins, hfrom, hperm⟩ := C01_seqres_inserted_from_records ch db cid data lines
  have hnil : ins.flatMap (·.atoms) = [] := List.flatMap_eq_nil_iff.mpr fun r hr =>
    let ⟨seq, _, idx, h⟩ := hfrom r hr
    seqresResidue_atoms seq idx r h
  refine (hperm.flatMap_right _).trans ?_
  rw [List.flatMap_append, hnil, List.append_nil]
  exact List.Perm.refl _

/-- the id of the chain is not touched -/
theorem C01_seqres_chain_keeps_id (ch : Chain) (db : Option DbRef) (cid : Char)
    (data : List (Nat × Nat × List (List Char))) (lines : List (Nat × List Char)) :
    (validateSeqresChain ch db cid data lines).1.id = ch.id := by
  unfold validateSeqresChain
  rfl

theorem setChainAt_chains (p : PDB) (k : Nat) (c : Chain) : (setChainAt p k c).chains = p.chains.set k c := by
  unfold setChainAt PDB.chains
  generalize p.models = ms
  induction ms generalizing k with
  | nil => rfl
  | cons m ms ih =>
    unfold setChainAt.go
    split
    · next hlt => rw [List.flatMap_cons, List.flatMap_cons, List.set_append_left _ _ hlt]
    · next hge => rw [List.flatMap_cons, List.flatMap_cons, List.set_append_right _ _ (Nat.le_of_not_lt hge), ih]

/-- **the SEQRES checks add no atom and lose none**: the atoms of the structure after `validate_seqres` are the
atoms before it (rearranged only where an atom-less residue was put into a chain and the chain re-sorted) -/
theorem C01_seqres_keeps_atoms (p : PDB) (dbrefs : List (Nat × DbRef))
    (seqres : List (Char × List (Nat × Nat × List (List Char)))) (lines : List (Nat × List Char)) :
    List.Perm (validateSeqres p dbrefs seqres lines).1.atoms p.atoms := by
  have flat (q : PDB) : q.atoms = q.chains.flatMap (·.atoms) := List.flatMap_assoc.symm
  unfold validateSeqres
  refine List.foldlRecOn (motive := fun acc : PDB × List PDiag => List.Perm acc.1.atoms p.atoms) _ _
    (List.Perm.refl _) ?_
  intro acc hacc cd _
  split
  · exact hacc
  · next gi _ =>
    split
    · exact hacc
    · next ch hch =>
      -- one chain of `pdb.chains()` is replaced by one with the same atoms
      refine List.Perm.trans ?_ hacc
      rw [flat, flat, setChainAt_chains]
      simpa using perm_flatMap_set Chain.atoms [] _ gi ch _ hch
        (by simpa using C01_seqres_chain_keeps_atoms ch _ cd.1 cd.2 lines)

theorem seqresWalk_aux_prefix (offset : Int) (names : List (List Char × Nat × Nat)) :
    ∀ (k : Nat) (st : SeqSt) (suffix : List Residue),
      st.next = suffix.head? → st.rest = suffix.tail →
      (suffix.take names.length).map (·.serial) = (List.range' k names.length).map (fun (i : Nat) => (i : Int) + offset) →
      (((List.range' k names.length).zip names).foldl (fun st (ri : Nat × List Char × Nat × Nat) =>
        seqStep st ((ri.1 : Int) + offset) ri.2.1 ri.2.2) st).residues = st.residues := by
  induction names with
  | nil => intro k st suffix _ _ _; rfl
  | cons nm names ih =>
    intro k st suffix hn hr hs
    simp only [List.length_cons, List.range'_succ, List.zip_cons_cons, List.foldl_cons, List.map_cons] at hs ⊢
    cases suffix with
    | nil => simp at hs
    | cons r suffix =>
      simp only [List.take_succ_cons, List.map_cons, List.cons.injEq] at hs
      obtain ⟨hser, hs⟩ := hs
      simp only [List.head?_cons, List.tail_cons] at hn hr
      have hstep : (seqStep st ((k : Int) + offset) nm.1 nm.2).residues = st.residues ∧
          (seqStep st ((k : Int) + offset) nm.1 nm.2).next = suffix.head? ∧
          (seqStep st ((k : Int) + offset) nm.1 nm.2).rest = suffix.tail := by
        unfold seqStep
        simp only [hn, hser, BEq.rfl, if_true, hr]
        split <;> (try split) <;> simp [hr]
      rw [ih (k + 1) _ suffix hstep.2.1 hstep.2.2 hs]
      exact hstep.1

/-- **a chain whose first residues are the ones the SEQRES records describe — numbered consecutively from the SEQRES
offset, one per name — followed by anything else (hetero groups, waters, in any order) comes out of the SEQRES checks
with exactly its residues in exactly their order** -/
theorem C01_seqres_described_prefix_unchanged (ch : Chain) (db : Option DbRef) (cid : Char)
    (data : List (Nat × Nat × List (List Char))) (lines : List (Nat × List Char))
    (h : (ch.residues.take (seqresNames data).length).map (·.serial) =
      (List.range (seqresNames data).length).map (fun (i : Nat) => (i : Int) + seqresOffset db)) :
    (validateSeqresChain ch db cid data lines).1 = ch := by
  unfold validateSeqresChain
  simp only
  have := seqresWalk_aux_prefix (seqresOffset db) (seqresNames data) 0
    { residues := ch.residues, rest := ch.residues.tail, next := ch.residues.head? } ch.residues rfl rfl
    (by rw [← List.range_eq_range']; exact h)
  unfold seqresWalk
  rw [List.range_eq_range', this]

/-- **a chain whose residues are numbered consecutively from the SEQRES offset, one per SEQRES name, comes out
of the SEQRES checks with exactly its residues in exactly their order** (whatever the names are: a mismatch is
reported, never repaired) -/
theorem C01_seqres_complete_chain_unchanged (ch : Chain) (db : Option DbRef) (cid : Char)
    (data : List (Nat × Nat × List (List Char))) (lines : List (Nat × List Char))
    (h : ch.residues.map (·.serial) = (List.range (seqresNames data).length).map (fun (i : Nat) => (i : Int) + seqresOffset db)) :
    (validateSeqresChain ch db cid data lines).1 = ch := by
  apply C01_seqres_described_prefix_unchanged
  rw [List.take_of_length_le, h]
  have := congrArg List.length h
  simp only [List.length_map, List.length_range] at this
  omega

/-- non-vacuity: residues 0 and 1 under a two-name SEQRES record without database reference meet the premise -/
example : ([⟨0, none, []⟩, ⟨1, none, []⟩] : List Residue).map (·.serial) =
    (List.range (seqresNames [(1, 2, [['A', 'L', 'A'], ['G', 'L', 'Y']])]).length).map (fun (i : Nat) => (i : Int) + seqresOffset none) := by
  decide

end PdbModel
