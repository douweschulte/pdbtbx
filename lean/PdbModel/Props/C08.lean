/-
C08 — adding atoms builds a hierarchy with one child per identifier, in order of first insertion,
every atom under exactly the identifiers it was added with (identifiers compared in the trimmed,
case-normalised form in which they are stored).
-/
import PdbModel.Lemmas.Add
namespace PdbModel
open Grp

/-- Any history of add-atom calls with valid identifiers on an empty residue / chain / model yields
exactly the declarative nested grouping of the normalised calls. `mapM … = some` is the guard
"all identifiers valid": it is exactly what the real code does not panic on. -/
theorem C08_group_spec_residue (ops : List RawROp) (nops : List ROp) (k : ResId)
    (h : ops.mapM normROp = some nops) :
    ops.foldlM Residue.addAtom (Residue.empty k) =
      some { serial := k.1, icode := k.2, conformers := specConfs nops } :=
  (foldlM_map_of_mapM normROp Residue.addAtomN ops nops h _).trans (congrArg some (residue_build nops k))

theorem C08_group_spec_chain (ops : List RawCOp) (nops : List COp) (id : String)
    (h : ops.mapM normCOp = some nops) :
    ops.foldlM Chain.addAtom (Chain.empty id) = some { id := id, residues := specResidues nops } :=
  (foldlM_map_of_mapM normCOp Chain.addAtomN ops nops h _).trans (congrArg some (chain_build nops id))

theorem C08_group_spec_model (ops : List RawMOp) (nops : List MOp) (n : Nat)
    (h : ops.mapM normMOp = some nops) :
    ops.foldlM Model.addAtom { serial := n, chains := [] } =
      some { serial := n, chains := specChains nops } :=
  (foldlM_map_of_mapM normMOp Model.addAtomN ops nops h _).trans (congrArg some (model_build nops n))

/-- One child per distinct identifier at every level, children in order of first insertion. -/
theorem C08_one_child_in_order (ops : List MOp) :
    (specChains ops).map (·.id) = dedupK (ops.map (·.1)) ∧
    ((specChains ops).map (·.id)).Nodup ∧
    (∀ c ∈ specChains ops, (c.residues.map Residue.rid).Nodup ∧
      ∀ r ∈ c.residues, (r.conformers.map Conformer.cid).Nodup) := by
  refine ⟨specChains_keys ops, specChains_keys ops ▸ nodup_dedup _, fun c hc => ?_⟩
  obtain ⟨k, _, rfl⟩ := List.mem_map.mp hc
  refine ⟨(specResidues_keys _).symm ▸ nodup_dedup _, fun r hr => ?_⟩
  obtain ⟨k', _, rfl⟩ := List.mem_map.mp hr
  exact (specConfs_keys _).symm ▸ nodup_dedup _

/-- the invariant form: one add-atom call keeps identifiers pairwise distinct at every level it touches -/
theorem C08_inv_residue (r : Residue) (o : ROp) (h : (r.conformers.map Conformer.cid).Nodup) :
    ((r.addAtomN o).conformers.map Conformer.cid).Nodup :=
  nodup_upsertC Conformer.cid Conformer.empty (Conformer.push o.2) (cid_push o.2) cid_empty _ _ h

theorem C08_inv_chain (c : Chain) (o : COp) (h : (c.residues.map Residue.rid).Nodup) :
    ((c.addAtomN o).residues.map Residue.rid).Nodup := by
  unfold Chain.addAtomN
  simp only
  rw [upsertLastC_eq_upsertC _ _ _ _ _ h]
  exact nodup_upsertC Residue.rid Residue.empty _ (rid_addAtomN o.2) rid_empty _ _ h

theorem C08_inv_model (m : Model) (o : MOp) (h : (m.chains.map Chain.id).Nodup) :
    ((m.addAtomN o).chains.map Chain.id).Nodup :=
  nodup_upsertC Chain.id Chain.empty _ (id_addAtomN o.2) (fun _ => rfl) _ _ h

def atomsAt (cs : List Chain) (c : String) (r : ResId) (k : ConfId) : List Atom :=
  match cs.find? (fun x => x.id = c) with
  | none => []
  | some ch => match ch.residues.find? (fun x => x.rid = r) with
    | none => []
    | some rs => match rs.conformers.find? (fun x => x.cid = k) with
      | none => []
      | some cf => cf.atoms

theorem filter_key_eq_nil {K O} [DecidableEq K] (ops : List (K × O)) (k : K) (h : k ∉ dedupK (ops.map (·.1))) :
    ops.filter (fun o => o.1 = k) = [] := by
  rw [dedupK_eq, mem_dedup] at h
  exact List.filter_eq_nil_iff.mpr fun o ho he => h (List.mem_map.mpr ⟨o, ho, of_decide_eq_true he⟩)

/-- Every atom is found, in insertion order, under exactly the identifiers it was added with: the atoms
at a path are precisely the calls carrying that path, in call order (hence nothing lost or duplicated). -/
theorem C08_atoms_under_ids (ops : List MOp) (c : String) (r : ResId) (k : ConfId) :
    atomsAt (specChains ops) c r k =
      (ops.filter (fun o => o.1 = c ∧ o.2.1 = r ∧ o.2.2.1 = k)).map (·.2.2.2) := by
  -- select identifier by identifier, as the grouping does; then every level is the same step
  have hsel : (ops.filter (fun o => o.1 = c ∧ o.2.1 = r ∧ o.2.2.1 = k)).map (·.2.2.2) =
      ((((((ops.filter (fun o => o.1 = c)).map (·.2)).filter (fun o => o.1 = r)).map (·.2)).filter
        (fun o => o.1 = k)).map (·.2)) := by
    simp only [List.filter_map, List.map_map, List.filter_filter]
    congr 1
    apply List.filter_congr
    intro o _
    simp only [Function.comp, Bool.decide_and, Bool.and_assoc, Bool.and_comm]
  rw [hsel]
  unfold atomsAt specChains
  rw [find_map_key Chain.id _ (fun _ => rfl)]
  by_cases hc : c ∈ dedupK (ops.map (·.1))
  · rw [if_pos hc]
    dsimp only
    generalize (ops.filter (fun o => o.1 = c)).map (·.2) = ops
    unfold specResidues
    rw [find_map_key Residue.rid _ (fun _ => rfl)]
    by_cases hr : r ∈ dedupK (ops.map (·.1))
    · rw [if_pos hr]
      dsimp only
      generalize (ops.filter (fun o => o.1 = r)).map (·.2) = ops
      unfold specConfs
      rw [find_map_key Conformer.cid _ (fun _ => rfl)]
      by_cases hk : k ∈ dedupK (ops.map (·.1))
      · rw [if_pos hk]
      · rw [if_neg hk, filter_key_eq_nil _ _ hk]; rfl
    · rw [if_neg hr, filter_key_eq_nil _ _ hr]; rfl
  · rw [if_neg hc, filter_key_eq_nil _ _ hc]; rfl

/-- non-vacuity: mixed-case and padded identifiers normalise and land in one child -/
example :
    (normMOp (" A ", (5, some "a"), ("ala", some "b"), default)).map (fun o => (o.1, o.2.1, o.2.2.1)) =
      some ("A", (5, some "A"), ("ALA", some "B")) ∧
    (normMOp ("A", (5, some "A"), ("ALA ", some " B"), default)).map (fun o => (o.1, o.2.1, o.2.2.1)) =
      some ("A", (5, some "A"), ("ALA", some "B")) := by
  decide

end PdbModel
