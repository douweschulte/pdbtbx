/-
C01 — SSBOND records: the position an SSBOND end resolves to is an `SG` atom of the conformer, residue and chain
the record names, counted in the traversal order of `pdb.atoms()` (so the bond that is stored connects exactly
the two atoms the record speaks of); an end that names nothing is refused with a diagnostic, never resolved to
some other atom.
-/
import PdbModel.PdbRead
import PdbModel.Lemmas.List
import PdbModel.Props.C09
namespace PdbModel

/-- **an SSBOND end resolves to the atom the record names**: when `findSG` answers with a position, the atom at
that position of `pdb.atoms()` is called `SG` and sits in a conformer with the given residue name, of a residue
with the given number and insertion code, of a chain with the given id -/
theorem C01_ssbond_end_resolves (p : PDB) (resName : List Char) (seq : Int) (icode : Option (List Char))
    (chain : List Char) (k : Nat) (h : findSG p resName seq icode chain = some k) :
    ∃ ch ∈ p.chains, ∃ r ∈ ch.residues, ∃ f ∈ r.conformers, ∃ a ∈ f.atoms,
      ch.id = String.ofList chain ∧ r.serial = seq ∧ r.icode = icode.map String.ofList ∧
      f.name = String.ofList resName ∧ a.name = "SG" ∧ p.atoms[k]? = some a := by
  revert h
  -- every `None` of the code ends the search: only the case where all four levels are found remains
  fun_cases findSG p resName seq icode chain
  case case8 chains gi hgi ch hch ri hri r hr fi hfi f hf ai hai before =>
    intro h
    cases h
    obtain ⟨hlt, hap, _⟩ := List.findIdx?_eq_some_iff_getElem.mp hai
    have hchp := findIdx?_get hgi hch
    have hrp := findIdx?_get hri hr
    have hfp := findIdx?_get hfi hf
    simp only [Bool.and_eq_true, beq_iff_eq] at hchp hrp hfp hap
    refine ⟨ch, List.mem_of_getElem? hch, r, List.mem_of_getElem? hr, f, List.mem_of_getElem? hf, f.atoms[ai],
      List.getElem_mem hlt, hchp, hrp.1, hrp.2, hfp, hap, ?_⟩
    rw [(C09_flat_eq_nested p).1, Nat.add_assoc, Nat.add_assoc]
    exact flatMap_index p.chains (·.atoms) gi _ ch _ hch
      (flatMap_index ch.residues (·.atoms) ri _ r _ hr
        (flatMap_index r.conformers (·.atoms) fi ai f _ hf (List.getElem?_eq_getElem hlt)))
  all_goals nofun

def FromRecord (p : PDB) (all : List ((Nat × List Char) × LexItem)) (q : Nat × Nat) : Prop :=
  ∃ b ∈ all, ∃ r1 s1 i1 c1 r2 s2 i2 c2, b.2 = LexItem.ssbond r1 s1 i1 c1 r2 s2 i2 c2 ∧
    findSG p r1 s1 i1 c1 = some q.1 ∧ findSG p r2 s2 i2 c2 = some q.2

/-- **a bond is stored only between two resolved ends**: every pair of positions `add_bonds` stores comes from
an SSBOND record of the file both of whose ends resolve (by `C01_ssbond_end_resolves`: to the `SG` atoms of the
residues the record names) -/
theorem C01_bonds_from_records (p : PDB) (bonds : List ((Nat × List Char) × LexItem)) (q : Nat × Nat)
    (h : q ∈ (addBonds p bonds).1) : FromRecord p bonds q := by
  revert q
  unfold addBonds
  apply List.foldlRecOn (motive := fun acc : List (Nat × Nat) × List PDiag => ∀ q ∈ acc.1, FromRecord p bonds q)
  · intro q hq
    cases hq
  · intro acc hacc b hb
    split
    · next r1 s1 i1 c1 r2 s2 i2 c2 hbe =>
      split
      · next x y hx hy =>
        intro q hq
        rcases List.mem_append.mp hq with h | h
        · exact hacc q h
        · rw [List.mem_singleton.mp h]
          exact ⟨b, hb, r1, s1, i1, c1, r2, s2, i2, c2, hbe, hx, hy⟩
      · exact hacc
    · exact hacc

end PdbModel
