/-
C02 — rows → hierarchy.  What a row does to the list of models is one of three things: nothing; make sure the model
with the row's number exists; or, on top of that, one `Model::add_atom` into that model.  Over a whole loop this gives
an invariant of the row fold (`LoopInv`): the models have pairwise distinct numbers, and each was built from the empty
model by operations of the rows that state its number, one per row at most, in row order — so by the grouping theorem
of C08 it holds one chain per chain id, one residue per (number, insertion code), one conformer per (name, alternate
location), each in order of first appearance, with the atoms in row order under the identifiers of their rows.  The
statements for a loop with one model number are the case of one model; for a loop with any model numbers every model
that comes out is the grouping of operations stated by rows that carry its number, and no two models share a number.
-/
import PdbModel.Props.C02Atom
import PdbModel.Props.C08
namespace PdbModel

def RowModels (P : RawMOp → Prop) (n : Nat) (before after : List Model) : Prop :=
  after = before ∨ after = (rowModel before n).1 ∨
  ∃ op : RawMOp, P op ∧ after = placeIn (rowModel before n).1 (rowModel before n).2 op

/-- **what a row does to the models**: nothing, the model of its number made sure of, or one `Model::add_atom` -/
theorem C02_row_models (olf : Bool) (s : AState) (vals : List (Option CifValue)) :
    RowModels (IsRowOp vals) (rowNumber vals) s.models (atomRowCore olf s vals).models := by
  rcases atomRowCore_models olf vals s with h | h | ⟨op, m, m', hop, hm, hadd, h⟩
  · exact Or.inl h
  · exact Or.inr (Or.inl h)
  · exact Or.inr (Or.inr ⟨op, hop, h.trans (placeIn_of_some hm hadd).symm⟩)

theorem addAtom_serial (m m' : Model) (o : RawMOp) (h : m.addAtom o = some m') : m'.serial = m.serial := by
  obtain ⟨op, -, rfl⟩ := Option.map_eq_some_iff.mp h
  rfl

/-- `ops` are operations of some of the `rows`, one per row at most, in row order -/
inductive OpsOf (header : List (List Char)) : List (List CifValue) → List RawMOp → Prop
  | nil : OpsOf header [] []
  | skip (r : List CifValue) {rows : List (List CifValue)} {ops : List RawMOp} :
      OpsOf header rows ops → OpsOf header (r :: rows) ops
  | take (r : List CifValue) (op : RawMOp) {rows : List (List CifValue)} {ops : List RawMOp} :
      IsRowOp (rowVals header r) op → OpsOf header rows ops → OpsOf header (r :: rows) (op :: ops)

theorem OpsOf.append {header : List (List Char)} {rows rows' : List (List CifValue)} {ops ops' : List RawMOp}
    (h : OpsOf header rows ops) (h' : OpsOf header rows' ops') : OpsOf header (rows ++ rows') (ops ++ ops') := by
  induction h with
  | nil => exact h'
  | skip r _ ih => exact .skip r ih
  | take r op hop _ ih => exact .take r op hop ih

theorem opsOf_nil (header : List (List Char)) (rows : List (List CifValue)) : OpsOf header rows [] := by
  induction rows with
  | nil => exact .nil
  | cons r _ ih => exact .skip r ih

def rowsOf (header : List (List Char)) (rows : List (List CifValue)) (n : Nat) : List (List CifValue) :=
  rows.filter fun row => rowNumber (rowVals header row) = n

/-- `m` was built from the empty model of its number by operations of the rows with that number, one per row at most,
in row order -/
def BuiltFrom (header : List (List Char)) (rows : List (List CifValue)) (m : Model) : Prop :=
  ∃ ops, OpsOf header (rowsOf header rows m.serial) ops ∧
    ops.foldlM Model.addAtom { serial := m.serial, chains := [] } = some m

theorem rowsOf_snoc (header : List (List Char)) (rows : List (List CifValue)) (r : List CifValue) (n : Nat) :
    rowsOf header (rows ++ [r]) n =
      if rowNumber (rowVals header r) = n then rowsOf header rows n ++ [r] else rowsOf header rows n := by
  unfold rowsOf
  rw [List.filter_append]
  split <;> simp [*]

theorem BuiltFrom.snoc {header : List (List Char)} {rows : List (List CifValue)} {m : Model}
    (h : BuiltFrom header rows m) (r : List CifValue) : BuiltFrom header (rows ++ [r]) m := by
  obtain ⟨ops, hops, hf⟩ := h
  refine ⟨ops, ?_, hf⟩
  rw [rowsOf_snoc]
  split
  · exact List.append_nil ops ▸ hops.append (.skip r .nil)
  · exact hops

theorem BuiltFrom.add {header : List (List Char)} {rows : List (List CifValue)} {m m' : Model} {r : List CifValue}
    {op : RawMOp} (h : BuiltFrom header rows m) (hn : rowNumber (rowVals header r) = m.serial)
    (hop : IsRowOp (rowVals header r) op) (hadd : m.addAtom op = some m') : BuiltFrom header (rows ++ [r]) m' := by
  obtain ⟨ops, hops, hf⟩ := h
  have hs := addAtom_serial m m' op hadd
  refine ⟨ops ++ [op], ?_, ?_⟩
  · rw [rowsOf_snoc, hs, if_pos hn]
    exact hops.append (.take r op hop .nil)
  · rw [hs, List.foldlM_append, hf]
    simp only [List.foldlM_cons, List.foldlM_nil, bind, Option.bind, hadd, pure]

/-- the models read so far have pairwise distinct numbers, each stated by a row read so far, and each was built by the
rows with its number -/
def LoopInv (header : List (List Char)) (done : List (List CifValue)) (ms : List Model) : Prop :=
  (ms.map (·.serial)).Nodup ∧
  ∀ m ∈ ms, (∃ row ∈ done, rowNumber (rowVals header row) = m.serial) ∧ BuiltFrom header done m

theorem loopInv_step (o : ReadOpts) (header : List (List Char)) (done : List (List CifValue)) (r : List CifValue)
    (s : AState) (hb : LoopInv header done s.models) :
    LoopInv header (done ++ [r]) (atomRow o s (rowVals header r)).models := by
  have hr := atomRowCore_models o.onlyFirstModel (rowVals header r) s
  generalize hn : rowNumber (rowVals header r) = n at hr
  have hgrow : LoopInv header (done ++ [r]) s.models :=
    ⟨hb.1, fun m hm => ⟨(hb.2 m hm).1.imp fun _ h => ⟨List.mem_append_left _ h.1, h.2⟩, (hb.2 m hm).2.snoc r⟩⟩
  have hr_mem : r ∈ done ++ [r] := List.mem_append_right _ (List.mem_singleton_self r)
  -- the model of the row's number: found, or appended empty
  have hrm : LoopInv header (done ++ [r]) (rowModel s.models n).1 ∧
      ∀ m, (rowModel s.models n).1[(rowModel s.models n).2]? = some m → m.serial = n ∧ BuiltFrom header done m := by
    rcases rowModel_cases s.models n with ⟨i, m0, hm0, hs, h⟩ | ⟨hne, h⟩ <;> rw [h]
    · refine ⟨hgrow, fun m hm => ?_⟩
      obtain rfl : m0 = m := Option.some.inj (hm0.symm.trans hm)
      exact ⟨hs, (hb.2 m0 (List.mem_of_getElem? hm0)).2⟩
    · have hempty : BuiltFrom header done { serial := n, chains := [] } := ⟨[], opsOf_nil .., rfl⟩
      refine ⟨⟨?_, fun m hm => ?_⟩, fun m hm => ?_⟩
      · rw [List.map_append, List.nodup_append]
        refine ⟨hb.1, List.pairwise_singleton _ _, fun a ha b hb' => ?_⟩
        obtain ⟨m, hm, rfl⟩ := List.mem_map.mp ha
        rw [List.mem_singleton.mp hb']
        exact hne m hm
      · rcases List.mem_append.mp hm with hm | hm
        · exact hgrow.2 m hm
        · rw [List.mem_singleton.mp hm]
          exact ⟨⟨r, hr_mem, hn⟩, hempty.snoc r⟩
      · rw [List.getElem?_concat_length] at hm
        rw [← Option.some.inj hm]
        exact ⟨rfl, hempty⟩
  unfold atomRow
  split
  · exact hgrow
  · generalize (atomRowCore o.onlyFirstModel s (rowVals header r)).models = ms' at hr ⊢
    rcases hr with rfl | rfl | ⟨op, m, m', hop, hm, hadd, rfl⟩
    · exact hgrow
    · exact hrm.1
    · obtain ⟨hs, hbuilt⟩ := hrm.2 m hm
      have hs' := addAtom_serial m m' op hadd
      refine ⟨by rw [map_set_of_eq hm hs']; exact hrm.1.1, fun x hx => ?_⟩
      rcases List.mem_or_eq_of_mem_set hx with hx | rfl
      · exact hrm.1.2 x hx
      · exact ⟨⟨r, hr_mem, by rw [hn, hs', hs]⟩, hbuilt.add (by rw [hn, hs]) hop hadd⟩

theorem loopInv_rows (o : ReadOpts) (header : List (List Char)) (done rows : List (List CifValue)) (s : AState)
    (hb : LoopInv header done s.models) :
    LoopInv header (done ++ rows)
      (rows.foldl (fun (s : AState) (row : List CifValue) => atomRow o s (rowVals header row)) s).models := by
  induction rows generalizing s done with
  | nil => rw [List.append_nil]; exact hb
  | cons r rs ih =>
    rw [List.foldl_cons, List.append_cons]
    exact ih _ _ (loopInv_step o header done r s hb)

/-- **the models of a loop**: reading an atom_site loop into an empty structure gives models with pairwise distinct
numbers, each stated by a row, each built by the rows that state its number: one operation per row at most, in row order -/
theorem loop_models_built (o : ReadOpts) (header : List (List Char)) (rows : List (List CifValue)) :
    LoopInv header rows (parseAtoms o [] header rows).1 := by
  have hnil : ∀ done, LoopInv header done [] := fun _ => ⟨List.nodup_nil, fun _ h => (by cases h)⟩
  unfold parseAtoms
  split
  · exact hnil rows
  · exact loopInv_rows o header [] rows { models := [] } (hnil [])

/-- … hence it is the grouping of C08 of these operations -/
theorem BuiltFrom.grouped {header : List (List Char)} {rows : List (List CifValue)} {m : Model}
    (h : BuiltFrom header rows m) : ∃ (ops : List RawMOp) (nops : List MOp),
      OpsOf header (rowsOf header rows m.serial) ops ∧ ops.mapM normMOp = some nops ∧
      m = { serial := m.serial, chains := specChains nops } := by
  obtain ⟨ops, hops, hf⟩ := h
  obtain ⟨nops, hnops⟩ := mapM_of_foldlM_map normMOp Model.addAtomN ops _ m hf
  exact ⟨ops, nops, hops, hnops, Option.some.inj (hf.symm.trans (C08_group_spec_model ops nops m.serial hnops))⟩

/-- **the rows of a loop with one model number are grouped as they state, in row order**: the one model that comes
out is the C08 grouping of a sequence of `Model::add_atom` operations that runs parallel to the rows — each operation is
stated by its own row (`IsRowOp`: identifiers with the author's cells preferred, the atom built by `Atom::new` from the
row's cells), no row states two, and their order is the order of the rows -/
theorem C02_single_model_loop_in_row_order (o : ReadOpts) (n : Nat) (header : List (List Char))
    (rows : List (List CifValue)) (hn : ∀ row ∈ rows, rowNumber (rowVals header row) = n) :
    (parseAtoms o [] header rows).1 = [] ∨
    ∃ (ops : List RawMOp) (nops : List MOp), OpsOf header rows ops ∧ ops.mapM normMOp = some nops ∧
      (parseAtoms o [] header rows).1 = [{ serial := n, chains := specChains nops }] := by
  have inv := loop_models_built o header rows
  -- every model has number `n`, so there is at most one
  have hser : ∀ m ∈ (parseAtoms o [] header rows).1, m.serial = n := fun m hm =>
    (inv.2 m hm).1.elim fun row h => h.2 ▸ hn row h.1
  have hall : rowsOf header rows n = rows := List.filter_eq_self.mpr fun row h => by simpa using hn row h
  rcases hms : (parseAtoms o [] header rows).1 with _ | ⟨m, _ | ⟨m2, t⟩⟩
  · exact Or.inl rfl
  · rw [hms] at inv hser
    obtain ⟨ops, nops, hops, hnops, hm⟩ := (inv.2 m (List.mem_singleton_self m)).2.grouped
    rw [hser m (List.mem_singleton_self m)] at hops hm
    exact Or.inr ⟨ops, nops, hall ▸ hops, hnops, by rw [hm]⟩
  · rw [hms] at inv hser
    have h1 := hser m (List.mem_cons_self ..)
    have h2 := hser m2 (List.mem_cons_of_mem _ (List.mem_cons_self ..))
    have := inv.1
    simp [h1, h2] at this

def FromRows (header : List (List Char)) (rows : List (List CifValue)) (op : RawMOp) : Prop :=
  ∃ row ∈ rows, IsRowOp (rowVals header row) op

theorem OpsOf.fromRows {header : List (List Char)} {rows : List (List CifValue)} {ops : List RawMOp}
    (h : OpsOf header rows ops) : ∀ op ∈ ops, FromRows header rows op := by
  induction h with
  | nil => exact fun _ h => (by cases h)
  | skip r _ ih => exact fun op hop => (ih op hop).imp fun _ h => ⟨List.mem_cons_of_mem _ h.1, h.2⟩
  | take r op' hop' _ ih =>
    intro op hop
    rcases List.mem_cons.mp hop with rfl | hop
    · exact ⟨r, List.mem_cons_self .., hop'⟩
    · exact (ih op hop).imp fun _ h => ⟨List.mem_cons_of_mem _ h.1, h.2⟩

/-- **the rows of a loop with one model number are grouped as they state**: starting from an empty structure, the
atom_site loop yields no model at all (no row was placed) or exactly one model, with that number, whose chains are
the declarative grouping (C08: one chain per chain id, one residue per number and insertion code, one conformer per
name and alternate location, each in order of first appearance, atoms in row order under the identifiers of their
rows) of `Model::add_atom` operations each of which is stated by a row of the loop: its chain id and residue number are the
row's author cells when they have a value and the label cells otherwise, its insertion code, residue name and alternate
location are the row's cells (`IsRowOp`) -/
theorem C02_single_model_loop_is_grouped (o : ReadOpts) (n : Nat) (header : List (List Char))
    (rows : List (List CifValue)) (hn : ∀ row ∈ rows, rowNumber (rowVals header row) = n) :
    (parseAtoms o [] header rows).1 = [] ∨
    ∃ (ops : List RawMOp) (nops : List MOp), (∀ op ∈ ops, FromRows header rows op) ∧ ops.mapM normMOp = some nops ∧
      (parseAtoms o [] header rows).1 = [{ serial := n, chains := specChains nops }] := by
  rcases C02_single_model_loop_in_row_order o n header rows hn with h | ⟨ops, nops, hops, hnops, h⟩
  · exact Or.inl h
  · exact Or.inr ⟨ops, nops, hops.fromRows, hnops, h⟩

def FromRowsOf (header : List (List Char)) (rows : List (List CifValue)) (n : Nat) (op : RawMOp) : Prop :=
  ∃ row ∈ rows, rowNumber (rowVals header row) = n ∧ IsRowOp (rowVals header row) op

/-- **every model of the loop is grouped as its rows state**: reading an atom_site loop into an empty structure gives
models with pairwise distinct numbers, each of them the declarative grouping of C08 (one chain per chain id, one residue
per number and insertion code, one conformer per name and alternate location, in order of first appearance, atoms in
insertion order) of `Model::add_atom` operations every one of which is stated by a row that carries the model's number -/
theorem C02_loop_models_are_grouped (o : ReadOpts) (header : List (List Char)) (rows : List (List CifValue)) :
    (((parseAtoms o [] header rows).1).map (·.serial)).Nodup ∧
    ∀ m ∈ (parseAtoms o [] header rows).1, ∃ (ops : List RawMOp) (nops : List MOp),
      (∀ op ∈ ops, FromRowsOf header rows m.serial op) ∧ ops.mapM normMOp = some nops ∧
      m = { serial := m.serial, chains := specChains nops } := by
  have inv := loop_models_built o header rows
  refine ⟨inv.1, fun m hm => ?_⟩
  obtain ⟨ops, nops, hops, hnops, h⟩ := (inv.2 m hm).2.grouped
  refine ⟨ops, nops, fun op hop => ?_, hnops, h⟩
  obtain ⟨row, hrow, hisop⟩ := hops.fromRows op hop
  have := List.mem_filter.mp hrow
  exact ⟨row, this.1, by simpa using this.2, hisop⟩

/-- non-vacuity: the example row of `C02Atom` states model 1 and the operation (chain A, residue 1, ALA, no alternate
location) through its label cells, having no author cells; that it is placed is the example of `C02Atom` -/
example : rowNumber exampleRow = 1 := by decide +kernel
example : ChainOf exampleRow ['A'] ∧ NumberOf exampleRow 1 :=
  ⟨Or.inr ⟨by decide +kernel, by decide +kernel⟩, Or.inr ⟨by decide +kernel, 0, by decide +kernel⟩⟩

end PdbModel
