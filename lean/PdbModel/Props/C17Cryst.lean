/-
C17 — the space group through a CRYST1 record, for all 230 groups.

The writer prints the Hermann–Mauguin symbol left aligned in at least eleven columns behind the six numeric
cells (55 one-byte characters); the reader takes columns 56–66 and looks the trimmed text up.  Decided here for
every group: the group comes back exactly when its symbol fits the eleven columns — which it does for 220
groups and does not for the ten groups of the open finding (125, 126, 129, 130, 133, 134, 137, 138, 141, 142).
-/
import PdbModel.PdbWrite
import PdbModel.PdbLex
import PdbModel.Lemmas.PdbLine
import PdbModel.Props.C17
namespace PdbModel

/-- columns 56–66 of the CRYST1 line the writer prints for a group whose Hermann–Mauguin symbol is `s` -/
def symCols (s : List Nat) : List Char :=
  let hm := s.map Char.ofNat
  (hm ++ List.replicate (11 - hm.length) ' ').take 11

/-- per group, `s` its symbol and `i` its number: the field is eleven one-byte characters; a symbol of at most
eleven characters is its trimmed text, and when the symbol is longer the trimmed text is neither symbol of the
group -/
def crystOk (s : List Nat) (i : Nat) : Bool :=
  let f := symCols s
  let v := (trim f).map Char.toNat
  f.length == 11 && decide (Ascii f) &&
  (if s.length ≤ 11 then v == s else hmSymbol i != some (trimCodes v) && hallSymbol i != some (trimCodes v))

theorem cryst_all_ok : Gen.hmSymbols.zipIdx.all (fun p => crystOk p.1 (p.2 + 1)) = true := by decide +kernel

theorem cryst1Head_spec (c : List Int) : Ascii (getLine (cryst1Head c)) ∧ (getLine (cryst1Head c)).length = 55 := by
  refine ⟨ascii_getLine _ ?_, ?_⟩
  · simp only [cryst1Head, List.forall_mem_cons]
    exact ⟨by decide, ascii_fmtFixed _ _ _, ascii_fmtFixed _ _ _, ascii_fmtFixed _ _ _,
      ascii_fmtFixed _ _ _, ascii_fmtFixed _ _ _, ascii_fmtFixed _ _ _, by decide, nofun⟩
  · rw [length_getLine]
    rfl

theorem cryst1Line_shape (lvl : Strictness) (c : List Int) {i : Nat} {s : List Nat} (h : hmSymbol i = some s) :
    ∃ post, cryst1Line lvl c (some i) = getLine (cryst1Head c) ++ symCols s ++ post := by
  have hs : getLine [(0, cryst1Sym (some i))] = symCols s ++ (cryst1Sym (some i)).drop 11 := by
    have : (cryst1Sym (some i)).take 11 = symCols s := by
      unfold cryst1Sym symCols
      simp only [h, Option.getD_some, List.append_assoc]
      rw [← List.append_assoc,
        List.take_append_of_le_length (by simp only [List.length_append, List.length_replicate]; omega)]
    rw [← this]
    simp only [getLine, List.flatMap_cons, List.flatMap_nil, List.append_nil, cell_zero, List.take_append_drop]
  unfold cryst1Line
  rw [printLine_eq, getLine_append, hs]
  exact ⟨_, by simp only [List.append_assoc]; rfl⟩

theorem lexCryst_symbol (ln : Nat) (line : List Char) :
    ∃ a b cc al be ga, (lexCryst ln line).1 = .crystal a b cc al be ga (fStr ln line 55 (min 66 line.length)).1 :=
  ⟨_, _, _, _, _, _, rfl⟩

/-- **a space group through CRYST1**: for every one of the 230 groups, whatever the cell and the writer's
level, the record the writer prints is lexed back to a symbol that names the same group exactly when the
Hermann–Mauguin symbol fits the eleven columns of the sGroup field -/
theorem C17_cryst1_read_back (lvl : Strictness) (ln : Nat) (c : List Int) (i : Nat) (h1 : 1 ≤ i) (h2 : i ≤ 230) :
    ∃ a b cc al be ga sg, (lexCryst ln (cryst1Line lvl c (some i))).1 = .crystal a b cc al be ga sg ∧
      (symmetryNew (sg.map Char.toNat) = some i ↔ ((hmSymbol i).getD []).length ≤ 11) := by
  obtain ⟨k, rfl⟩ : ∃ k, i = k + 1 := ⟨i - 1, by omega⟩
  obtain ⟨_, ⟨s, hs, hnew⟩, _⟩ := C17_index_roundtrip (k + 1) h1 h2
  have hk := List.all_eq_true.mp cryst_all_ok (s, k)
    (List.mem_zipIdx_iff_getElem?.mpr ((hmSymbol_succ k).symm.trans hs))
  unfold crystOk at hk
  simp only [Bool.and_eq_true, beq_iff_eq] at hk
  obtain ⟨⟨hlen, hasc⟩, hlook⟩ := hk
  obtain ⟨post, hline⟩ := cryst1Line_shape lvl c hs
  obtain ⟨hpa, hpl⟩ := cryst1Head_spec c
  obtain ⟨a, b, cc, al, be, ga, hcr⟩ := lexCryst_symbol ln (cryst1Line lvl c (some (k + 1)))
  refine ⟨a, b, cc, al, be, ga, _, hcr, ?_⟩
  have hmin : min 66 (getLine (cryst1Head c) ++ symCols s ++ post).length = 66 := by
    simp only [List.length_append, hpl, hlen]; omega
  have hf := fieldW_cell (fun s => some s) [] ln (getLine (cryst1Head c)) (symCols s) post hpa
    (of_decide_eq_true hasc) (trim (symCols s)) rfl
  rw [hpl, hlen] at hf
  unfold fStr
  rw [hline, hmin, hf, hs]
  simp only [Option.getD_some]
  -- the two branches of `crystOk`; in the second the cut text is neither symbol of the group, so the lookup cannot give `k + 1`
  split at hlook
  · next hfit => simpa [beq_iff_eq.mp hlook, hnew] using hfit
  · next hfit =>
    simp only [hmSymbol_succ, hallSymbol_succ, Bool.and_eq_true, bne_iff_ne, ne_eq] at hlook
    simpa [hfit, symmetryNew, indexForSymbol_eq_some_iff] using hlook

/-- the ten groups of the open finding, and no others, have symbols that do not fit -/
theorem C17_cryst1_misfits :
    (List.range 230).filter (fun k => decide (11 < ((hmSymbol (k + 1)).getD []).length)) =
      [124, 125, 128, 129, 132, 133, 136, 137, 140, 141] := by
  have h := filter_range_getElem? Gen.hmSymbols fun o => decide (11 < (o.getD []).length)
  rw [C17_lengths.1] at h
  simp only [hmSymbol_succ]
  rw [h]
  decide +kernel

end PdbModel
