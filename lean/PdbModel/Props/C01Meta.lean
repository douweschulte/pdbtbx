/-
C01 — the metadata records populate the corresponding metadata.  REMARK: the remarks of the structure are exactly the
REMARK records of the text that `add_remark` accepts (a known remark type number, printable text), in the order of the
text.  HEADER: the identifier is the identifier field of the last HEADER record.  (Read without only-first-model, which
stops reading at the second MODEL record.)  CRYST1 (cell, space group), SCALEn / ORIGXn, MTRIXn and MODRES follow.

Every theorem here has the same shape: one record type touches one component of the parser state
(`stepItem_…`), so a line updates that component by what it states (`stepLine_…`), and the component after the whole
text is the fold of these updates (`parseLines_component`).
-/
import PdbModel.Lemmas.PdbRead
namespace PdbModel

def remarkOf (o : ReadOpts) (il : Nat × List Char) : Option (Nat × String) :=
  match lexLine il.2 (il.1 + 1) o.level o.onlyAtomicCoords with
  | .ok (.remark num text, _) => if Gen.remarkTypes.contains num && validText text then some (num, String.ofList text) else none
  | _ => none

def headerOf (o : ReadOpts) (il : Nat × List Char) : Option String :=
  match lexLine il.2 (il.1 + 1) o.level o.onlyAtomicCoords with
  | .ok (.header id, _) => some (String.ofList id)
  | _ => none

theorem stepItem_remarks (o : ReadOpts) (s : PState) (ctx : Nat × List Char) (item : LexItem) :
    (stepItem o s ctx item).1.info.remarks =
      (match item with
       | .remark num text =>
         if Gen.remarkTypes.contains num && validText text then s.info.remarks ++ [(num, String.ofList text)]
         else s.info.remarks
       | _ => s.info.remarks) := by
  rw [stepItem_footprint]
  cases item
  case remark num text => simp only [stepItem]; split <;> rfl
  all_goals rfl

theorem stepItem_identifier (o : ReadOpts) (s : PState) (ctx : Nat × List Char) (item : LexItem) :
    (stepItem o s ctx item).1.info.identifier =
      (match item with | .header id => some (String.ofList id) | _ => s.info.identifier) := by
  rw [stepItem_footprint]
  cases item <;> rfl

theorem stepLine_remarks (o : ReadOpts) (s : PState) (il : Nat × List Char) (hs : s.stopped = false) :
    (stepLine o s (il.1 + 1) il.2).info.remarks =
      (remarkOf o il).elim s.info.remarks (fun r => s.info.remarks ++ [r]) := by
  rw [stepLine_component (·.info.remarks) (fun _ _ => rfl) o s _ _ hs, remarkOf]
  rcases lexLine il.2 (il.1 + 1) o.level o.onlyAtomicCoords with e | ⟨item, _⟩
  · rfl
  · refine (stepItem_remarks o _ _ item).trans ?_
    cases item
    case remark num text => simp only; split <;> rfl
    all_goals rfl

theorem stepLine_identifier (o : ReadOpts) (s : PState) (il : Nat × List Char) (hs : s.stopped = false) :
    (stepLine o s (il.1 + 1) il.2).info.identifier = (headerOf o il).elim s.info.identifier some := by
  rw [stepLine_component (·.info.identifier) (fun _ _ => rfl) o s _ _ hs, headerOf]
  rcases lexLine il.2 (il.1 + 1) o.level o.onlyAtomicCoords with e | ⟨item, _⟩
  · rfl
  · exact (stepItem_identifier o _ _ item).trans (by cases item <;> rfl)

/-- **the remarks of the structure are the accepted REMARK records of the text, in order; its identifier is the
identifier field of the last HEADER record** (reading without only-first-model) -/
theorem C01_remarks_and_identifier (o : ReadOpts) (ho : o.onlyFirstModel = false) (lines : List (List Char)) :
    (readPdbCore o lines).1.info.remarks = ((List.range lines.length).zip lines).filterMap (remarkOf o) ∧
    (readPdbCore o lines).1.info.identifier = ((List.range lines.length).zip lines).reverse.findSome? (headerOf o) := by
  obtain ⟨h1, h2, _⟩ := readPdbCore_info o lines
  constructor
  · rw [h2, parseLines_component o ho (·.info.remarks) (remarkOf o) (fun a r => a ++ [r]) (stepLine_remarks o), foldl_snoc]
    rfl
  · rw [h1, parseLines_component o ho (·.info.identifier) (headerOf o) (fun _ v => some v) (stepLine_identifier o),
      foldl_some_filterMap]
    exact Option.or_none

def cellOf (o : ReadOpts) (il : Nat × List Char) : Option (List Flt) :=
  match lexLine il.2 (il.1 + 1) o.level o.onlyAtomicCoords with
  | .ok (.crystal a b c al be ga _, _) => some [a, b, c, al, be, ga]
  | _ => none

theorem stepItem_cell (o : ReadOpts) (s : PState) (ctx : Nat × List Char) (item : LexItem) :
    (stepItem o s ctx item).1.info.cell =
      (match item with | .crystal a b c al be ga _ => some [a, b, c, al, be, ga] | _ => s.info.cell) := by
  rw [stepItem_footprint]
  cases item
  case crystal => simp only [stepItem]; split <;> rfl
  all_goals rfl

theorem stepLine_cell (o : ReadOpts) (s : PState) (il : Nat × List Char) (hs : s.stopped = false) :
    (stepLine o s (il.1 + 1) il.2).info.cell = (cellOf o il).elim s.info.cell some := by
  rw [stepLine_component (·.info.cell) (fun _ _ => rfl) o s _ _ hs, cellOf]
  rcases lexLine il.2 (il.1 + 1) o.level o.onlyAtomicCoords with e | ⟨item, _⟩
  · rfl
  · exact (stepItem_cell o _ _ item).trans (by cases item <;> rfl)

/-- **the unit cell of the structure is the one of the last CRYST1 record** (reading without only-first-model) -/
theorem C01_cell_is_the_last_cryst1 (o : ReadOpts) (ho : o.onlyFirstModel = false) (lines : List (List Char)) :
    (readPdbCore o lines).1.info.cell = ((List.range lines.length).zip lines).reverse.findSome? (cellOf o) := by
  obtain ⟨_, _, h, _⟩ := readPdbCore_info o lines
  rw [h, parseLines_component o ho (·.info.cell) (cellOf o) (fun _ v => some v) (stepLine_cell o),
    foldl_some_filterMap]
  exact Option.or_none

def symOf (o : ReadOpts) (il : Nat × List Char) : Option Nat :=
  match lexLine il.2 (il.1 + 1) o.level o.onlyAtomicCoords with
  | .ok (.crystal _ _ _ _ _ _ sg, _) => symmetryNew (sg.map Char.toNat)
  | _ => none

theorem stepItem_symmetry (o : ReadOpts) (s : PState) (ctx : Nat × List Char) (item : LexItem) :
    (stepItem o s ctx item).1.info.symmetry =
      (match item with | .crystal _ _ _ _ _ _ sg => (symmetryNew (sg.map Char.toNat)).or s.info.symmetry | _ => s.info.symmetry) := by
  rw [stepItem_footprint]
  cases item
  case crystal => simp only [stepItem]; split <;> simp [*]
  all_goals rfl

theorem stepLine_symmetry (o : ReadOpts) (s : PState) (il : Nat × List Char) (hs : s.stopped = false) :
    (stepLine o s (il.1 + 1) il.2).info.symmetry = (symOf o il).elim s.info.symmetry some := by
  rw [stepLine_component (·.info.symmetry) (fun _ _ => rfl) o s _ _ hs, symOf]
  rcases lexLine il.2 (il.1 + 1) o.level o.onlyAtomicCoords with e | ⟨item, _⟩
  · rfl
  · refine (stepItem_symmetry o _ _ item).trans ?_
    cases item
    case crystal => simp only; cases symmetryNew _ <;> rfl
    all_goals rfl

/-- **the space group of the structure is the group of the last CRYST1 record whose symbol is a known Hermann-Mauguin
or Hall symbol** (reading without only-first-model) -/
theorem C01_symmetry_is_the_last_known_group (o : ReadOpts) (ho : o.onlyFirstModel = false) (lines : List (List Char)) :
    (readPdbCore o lines).1.info.symmetry = ((List.range lines.length).zip lines).reverse.findSome? (symOf o) := by
  obtain ⟨_, _, _, h, _⟩ := readPdbCore_info o lines
  rw [h, parseLines_component o ho (·.info.symmetry) (symOf o) (fun _ v => some v) (stepLine_symmetry o),
    foldl_some_filterMap]
  exact Option.or_none

def scaleOf (o : ReadOpts) (il : Nat × List Char) : Option (Nat × List Flt) :=
  match lexLine il.2 (il.1 + 1) o.level o.onlyAtomicCoords with
  | .ok (.scale r v, _) => some (r, v)
  | _ => none

def origxOf (o : ReadOpts) (il : Nat × List Char) : Option (Nat × List Flt) :=
  match lexLine il.2 (il.1 + 1) o.level o.onlyAtomicCoords with
  | .ok (.origx r v, _) => some (r, v)
  | _ => none

def rowsAfter (rows : List (Option (List Flt))) (recs : List (Nat × List Flt)) : List (Option (List Flt)) :=
  recs.foldl (fun rows rv => setRow rows rv.1 rv.2) rows

theorem stepItem_rows (o : ReadOpts) (s : PState) (ctx : Nat × List Char) (item : LexItem) :
    (stepItem o s ctx item).1.scale = (match item with | .scale r v => setRow s.scale r v | _ => s.scale) ∧
    (stepItem o s ctx item).1.origx = (match item with | .origx r v => setRow s.origx r v | _ => s.origx) := by
  rw [stepItem_footprint]
  cases item <;> exact ⟨rfl, rfl⟩

theorem stepLine_scale (o : ReadOpts) (s : PState) (il : Nat × List Char) (hs : s.stopped = false) :
    (stepLine o s (il.1 + 1) il.2).scale = (scaleOf o il).elim s.scale (fun rv => setRow s.scale rv.1 rv.2) := by
  rw [stepLine_component (·.scale) (fun _ _ => rfl) o s _ _ hs, scaleOf]
  rcases lexLine il.2 (il.1 + 1) o.level o.onlyAtomicCoords with e | ⟨item, _⟩
  · rfl
  · exact (stepItem_rows o _ _ item).1.trans (by cases item <;> rfl)

theorem stepLine_origx (o : ReadOpts) (s : PState) (il : Nat × List Char) (hs : s.stopped = false) :
    (stepLine o s (il.1 + 1) il.2).origx = (origxOf o il).elim s.origx (fun rv => setRow s.origx rv.1 rv.2) := by
  rw [stepLine_component (·.origx) (fun _ _ => rfl) o s _ _ hs, origxOf]
  rcases lexLine il.2 (il.1 + 1) o.level o.onlyAtomicCoords with e | ⟨item, _⟩
  · rfl
  · exact (stepItem_rows o _ _ item).2.trans (by cases item <;> rfl)

/-- **the SCALE and ORIGX matrices of the structure are built from the SCALEn / ORIGXn records alone**: each record
overwrites the row it names, in file order, and a matrix is present exactly when all three rows were given
(reading without only-first-model) -/
theorem C01_scale_and_origx_from_their_records (o : ReadOpts) (ho : o.onlyFirstModel = false) (lines : List (List Char)) :
    (readPdbCore o lines).1.info.scale =
      rowsFull (rowsAfter [none, none, none] (((List.range lines.length).zip lines).filterMap (scaleOf o))) ∧
    (readPdbCore o lines).1.info.origx =
      rowsFull (rowsAfter [none, none, none] (((List.range lines.length).zip lines).filterMap (origxOf o))) := by
  obtain ⟨_, _, _, _, h1, h2, _⟩ := readPdbCore_info o lines
  rw [h1, h2,
    parseLines_component o ho (·.scale) (scaleOf o) (fun rows rv => setRow rows rv.1 rv.2) (stepLine_scale o),
    parseLines_component o ho (·.origx) (origxOf o) (fun rows rv => setRow rows rv.1 rv.2) (stepLine_origx o)]
  exact ⟨rfl, rfl⟩

def mtrixOf (o : ReadOpts) (il : Nat × List Char) : Option (Nat × Nat × List Flt × Bool) :=
  match lexLine il.2 (il.1 + 1) o.level o.onlyAtomicCoords with
  | .ok (.mtrix r ser v given, _) => some (r, ser, v, given)
  | _ => none

/-- one MTRIXn record: the row of the transformation with its serial number is overwritten (and its "given" flag
replaced), an unseen serial number opens a new transformation at the end -/
def mtrixStep (ms : List (Nat × List (Option (List Flt)) × Bool)) (rec : Nat × Nat × List Flt × Bool) :
    List (Nat × List (Option (List Flt)) × Bool) :=
  match ms.findIdx? (·.1 == rec.2.1) with
  | some i => ms.modify i fun (k, rows, _) => (k, setRow rows rec.1 rec.2.2.1, rec.2.2.2)
  | none => ms ++ [(rec.2.1, setRow [none, none, none] rec.1 rec.2.2.1, rec.2.2.2)]

theorem stepItem_mtrix (o : ReadOpts) (s : PState) (ctx : Nat × List Char) (item : LexItem) :
    (stepItem o s ctx item).1.mtrix =
      (match item with | .mtrix r ser v given => mtrixStep s.mtrix (r, ser, v, given) | _ => s.mtrix) := by
  rw [stepItem_footprint]
  cases item
  case mtrix r ser v given => simp only [stepItem, mtrixStep]; split <;> simp [*]
  all_goals rfl

theorem stepLine_mtrix (o : ReadOpts) (s : PState) (il : Nat × List Char) (hs : s.stopped = false) :
    (stepLine o s (il.1 + 1) il.2).mtrix = (mtrixOf o il).elim s.mtrix (mtrixStep s.mtrix) := by
  rw [stepLine_component (·.mtrix) (fun _ _ => rfl) o s _ _ hs, mtrixOf]
  rcases lexLine il.2 (il.1 + 1) o.level o.onlyAtomicCoords with e | ⟨item, _⟩
  · rfl
  · exact (stepItem_mtrix o _ _ item).trans (by cases item <;> rfl)

/-- **the MTRIX transformations of the structure come from the MTRIXn records alone**: the complete ones (all three
rows given) among the transformations the records build up, in order of first appearance of their serial numbers
(reading without only-first-model) -/
theorem C01_mtrix_from_their_records (o : ReadOpts) (ho : o.onlyFirstModel = false) (lines : List (List Char)) :
    (readPdbCore o lines).1.info.mtrix =
      ((((List.range lines.length).zip lines).filterMap (mtrixOf o)).foldl mtrixStep []).filterMap
        (fun m => (rowsFull m.2.1).map fun v => (m.1, v, m.2.2)) := by
  obtain ⟨_, _, _, _, _, _, h⟩ := readPdbCore_info o lines
  rw [h, parseLines_component o ho (·.mtrix) (mtrixOf o) mtrixStep (stepLine_mtrix o)]

def modresOf (o : ReadOpts) (il : Nat × List Char) : Option ((Nat × List Char) × LexItem) :=
  match lexLine il.2 (il.1 + 1) o.level o.onlyAtomicCoords with
  | .ok (.modres a b c d e f, _) => some ((il.1 + 1, il.2), .modres a b c d e f)
  | _ => none

theorem stepItem_modifications (o : ReadOpts) (s : PState) (ctx : Nat × List Char) (item : LexItem) :
    (stepItem o s ctx item).1.modifications =
      (match item with | .modres .. => s.modifications ++ [(ctx, item)] | _ => s.modifications) := by
  rw [stepItem_footprint]
  cases item <;> rfl

theorem stepLine_modifications (o : ReadOpts) (s : PState) (il : Nat × List Char) (hs : s.stopped = false) :
    (stepLine o s (il.1 + 1) il.2).modifications =
      (modresOf o il).elim s.modifications (fun m => s.modifications ++ [m]) := by
  rw [stepLine_component (·.modifications) (fun _ _ => rfl) o s _ _ hs, modresOf]
  rcases lexLine il.2 (il.1 + 1) o.level o.onlyAtomicCoords with e | ⟨item, _⟩
  · rfl
  · exact (stepItem_modifications o _ _ item).trans (by cases item <;> rfl)

/-- **the residue modifications applied after reading are exactly the MODRES records, each with the line it stands
on, in file order** (reading without only-first-model): what the fold hands to `addModifications` -/
theorem fold_modifications_are_the_modres_records (o : ReadOpts) (ho : o.onlyFirstModel = false) (lines : List (List Char)) :
    (flushModel (((List.range lines.length).zip lines).foldl
      (fun s (il : Nat × List Char) => stepLine o s (il.1 + 1) il.2) ({} : PState))).modifications =
      ((List.range lines.length).zip lines).filterMap (modresOf o) := by
  rw [flushModel_eq]
  exact (parseLines_component o ho (·.modifications) (modresOf o) (fun a m => a ++ [m]) (stepLine_modifications o)
    lines).trans ((foldl_snoc _ _).trans (List.nil_append _))

end PdbModel
