/-
C17 — the space group through the mmCIF symmetry items, for all 230 groups: the quoted Hermann–Mauguin symbol
the writer prints is lexed back as exactly that text, whatever follows it, and looking that text up gives the
group back; the table number it prints is the number of the same group.
-/
import PdbModel.CifRead
import PdbModel.Lemmas.CifLex
import PdbModel.Props.C17
namespace PdbModel

def hmChars (k : Nat) : List Char := ((hmSymbol (k + 1)).getD []).map Char.ofNat

theorem hm_chars_plain :
    Gen.hmSymbols.all (fun s => (s.map Char.ofNat).all (fun c => !(c == '\'' || c == '\n' || c == '\r')) &&
      charsToCodes (s.map Char.ofNat) == s) = true := by decide +kernel

/-- **a space group through the mmCIF items**: for every one of the 230 groups the value `'<symbol>'` is
lexed as the text `<symbol>` with the input continuing right behind the closing quote, that text names the
group, and so does the table number -/
theorem C17_cif_symbol_read_back (i : Nat) (h1 : 1 ≤ i) (h2 : i ≤ 230) (rest : List Char) :
    parseValue ('\'' :: (hmChars (i - 1) ++ '\'' :: rest)) = .ok (.text (hmChars (i - 1)), rest) ∧
    symmetryNew (charsToCodes (hmChars (i - 1))) = some i ∧ symmetryFromIndex i = some i := by
  obtain ⟨k, rfl⟩ : ∃ k, i = k + 1 := ⟨i - 1, by omega⟩
  obtain ⟨hidx, ⟨s, hs, hnew⟩, _⟩ := C17_index_roundtrip (k + 1) h1 h2
  have hk : hmChars k = s.map Char.ofNat := by unfold hmChars; rw [hs]; rfl
  have hplain := List.all_eq_true.mp hm_chars_plain s (List.mem_of_getElem? ((hmSymbol_succ k).symm.trans hs))
  simp only [Bool.and_eq_true, beq_iff_eq] at hplain
  rw [Nat.add_sub_cancel, hk, hplain.2]
  refine ⟨?_, hnew, hidx⟩
  have hpe := parseEnclosed_closed '\'' (s.map Char.ofNat) rest (by
    intro c hc
    simpa using List.all_eq_true.mp hplain.1 c hc)
  unfold parseValue
  simp only [trimCW, show isCifWs '\'' = false by decide, Bool.false_eq_true, if_false,
    show ('\'' == '#') = false by decide, reservedStart_head '\'' _ (by decide),
    show ('\'' == '.') = false by decide, show ('\'' == '?') = false by decide, beq_self_eq_true, Bool.true_or,
    if_true, hpe]

end PdbModel
