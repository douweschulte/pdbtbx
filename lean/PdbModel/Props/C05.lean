/-
C05 — reading PDB-format input is total and every line-anchored diagnostic quotes the line that stands at
the reported line number. Totality of the model is by construction: after the repairs (see
known_findings.json) every slice of the code is `str::get` / `slice::get` or sits under a length guard, and
the model uses exactly those partial primitives (`getBytes`, `l[i]?`) — there is no panic constructor left
to reach. What remains to be PROVED is the line-number statement; the absence of panics in the real code is
decided by the fault enumeration of the tie.
-/
import PdbModel.Lemmas.PdbRead
namespace PdbModel

/-- a quoted (line number, text) pair is anchored in the input when that line stands at that number -/
def AnchoredQ (lines : List (List Char)) (q : Nat × List Char) : Prop := 1 ≤ q.1 ∧ lines[q.1 - 1]? = some q.2
def AnchoredD (lines : List (List Char)) (d : PDiag) : Prop := ∀ q ∈ d.quoted, AnchoredQ lines q

structure Inv (lines : List (List Char)) (s : PState) : Prop where
  errs : ∀ d ∈ s.errors, AnchoredD lines d
  mods : ∀ m ∈ s.modifications, AnchoredQ lines m.1
  bonds : ∀ b ∈ s.bonds, AnchoredQ lines b.1
  seqres : ∀ l ∈ s.seqresLines, AnchoredQ lines l

/-- the line contexts `t` holds were in `s` or are `ctx` -/
def GrowsBy (ctx : Nat × List Char) (s t : PState) : Prop :=
  (∀ m ∈ t.modifications, m ∈ s.modifications ∨ m.1 = ctx) ∧ (∀ b ∈ t.bonds, b ∈ s.bonds ∨ b.1 = ctx) ∧
  (∀ l ∈ t.seqresLines, l ∈ s.seqresLines ∨ l = ctx)

theorem GrowsBy.of_eq {ctx : Nat × List Char} {s t : PState} (hm : t.modifications = s.modifications)
    (hb : t.bonds = s.bonds) (hq : t.seqresLines = s.seqresLines) : GrowsBy ctx s t :=
  ⟨fun _ h => Or.inl (hm ▸ h), fun _ h => Or.inl (hb ▸ h), fun _ h => Or.inl (hq ▸ h)⟩

theorem stepItem_contexts (o : ReadOpts) (s : PState) (ctx : Nat × List Char) (item : LexItem) :
    GrowsBy ctx s (stepItem o s ctx item).1 := by
  rw [stepItem_footprint]
  cases item
  case modres => exact ⟨mem_snoc_or rfl, fun _ => Or.inl, fun _ => Or.inl⟩
  case ssbond => exact ⟨fun _ => Or.inl, mem_snoc_or rfl, fun _ => Or.inl⟩
  case seqres => exact ⟨fun _ => Or.inl, fun _ => Or.inl, mem_snoc_or rfl⟩
  all_goals exact .of_eq rfl rfl rfl

theorem stepLine_contexts (o : ReadOpts) (s : PState) (ln : Nat) (line : List Char) :
    GrowsBy (ln, line) s (stepLine o s ln line) := by
  rw [stepLine_proj (GrowsBy (ln, line) s) fun _ _ => rfl]
  split
  · exact .of_eq rfl rfl rfl
  · split
    · exact .of_eq rfl rfl rfl
    · exact stepItem_contexts o s.noErr ..

theorem stepLine_inv (lines : List (List Char)) (o : ReadOpts) (s : PState) (ln : Nat) (line : List Char)
    (h : AnchoredQ lines (ln, line)) (hi : Inv lines s) : Inv lines (stepLine o s ln line) := by
  obtain ⟨hm, hb, hq⟩ := stepLine_contexts o s ln line
  refine ⟨fun d hd => (stepLine_errors o s ln line d hd).elim (hi.errs d) fun hd q hq => ?_,
    fun m hm' => (hm m hm').elim (hi.mods m) fun e => e ▸ h,
    fun b hb' => (hb b hb').elim (hi.bonds b) fun e => e ▸ h,
    fun l hl => (hq l hl).elim (hi.seqres l) fun e => e ▸ h⟩
  rw [hd, List.mem_singleton] at hq
  exact hq ▸ h

theorem seqresQuoted_sub (ls : List (Nat × List Char)) (c : Char) (incons : List (Nat × Nat × String)) :
    ∀ q ∈ seqresQuoted ls c incons, q ∈ ls :=
  fun _ hq => (List.mem_filter.mp (List.mem_of_mem_take (List.mem_of_mem_drop hq))).1

/-- every line quoted by one of the diagnostics satisfies `S` -/
def QuoteOnly (S : Nat × List Char → Prop) (ds : List PDiag) : Prop := ∀ d ∈ ds, ∀ q ∈ d.quoted, S q

section
variable {S : Nat × List Char → Prop}

theorem quoteOnly_nil : QuoteOnly S [] := fun _ h => nomatch h

theorem QuoteOnly.append {a b : List PDiag} (ha : QuoteOnly S a) (hb : QuoteOnly S b) : QuoteOnly S (a ++ b) :=
  List.forall_mem_append.mpr ⟨ha, hb⟩

theorem quoteOnly_singleton {d : PDiag} : QuoteOnly S [d] ↔ ∀ q ∈ d.quoted, S q :=
  List.forall_mem_singleton

theorem quoteOnly_bare (lvl : ErrorLevel) (short : String) : QuoteOnly S [⟨lvl, short, []⟩] :=
  quoteOnly_singleton.mpr fun _ h => nomatch h

theorem quoteOnly_ite {c : Prop} [Decidable c] {a b : List PDiag} (ha : QuoteOnly S a) (hb : QuoteOnly S b) :
    QuoteOnly S (if c then a else b) := by
  split <;> assumption

theorem mergeRemarkWarnings_quotes (errs : List PDiag) (h : QuoteOnly S errs) : QuoteOnly S (mergeRemarkWarnings errs) := by
  intro d hd
  rcases (mem_mergeRemarkWarnings errs d).mp hd with ⟨hin, _⟩ | ⟨_, rfl⟩
  · exact h d hin
  · intro q hq
    obtain ⟨e, he, hqe⟩ := List.mem_flatMap.mp hq
    exact h e (List.mem_filter.mp he).1 q hqe

theorem resolveDbrefs_quotes (pdb : PDB) (dbrefs : List (String × DbRef × Bool)) :
    QuoteOnly S (resolveDbrefs pdb dbrefs).2 := by
  refine List.foldlRecOn (motive := fun acc : List (Nat × DbRef) × List PDiag => QuoteOnly S acc.2) dbrefs _
    quoteOnly_nil fun acc hacc d _ => ?_
  split
  · exact hacc.append (quoteOnly_bare _ _)
  · split <;> exact hacc

theorem rowsResult_quotes (short : String) (rows : List (Option (List Flt))) : QuoteOnly S (rowsResult short rows).2 := by
  unfold rowsResult
  split
  · exact quoteOnly_nil
  · exact quoteOnly_ite (quoteOnly_bare _ _) quoteOnly_nil

theorem mtrixResult_quotes (ms : List (Nat × List (Option (List Flt)) × Bool)) : QuoteOnly S (mtrixResult ms).2 := by
  refine List.foldlRecOn (motive := fun acc : List (Nat × List Flt × Bool) × List PDiag => QuoteOnly S acc.2) ms _
    quoteOnly_nil fun acc hacc m _ => ?_
  split
  · exact hacc
  · exact hacc.append (quoteOnly_bare _ _)

theorem addModifications_quotes (p : PDB) (mods : List ((Nat × List Char) × LexItem)) (h : ∀ m ∈ mods, S m.1) :
    QuoteOnly S (addModifications p mods).2 := by
  unfold addModifications
  refine List.foldlRecOn (motive := fun acc : PDB × List PDiag => QuoteOnly S acc.2) mods _ quoteOnly_nil
    fun acc hacc m hm => ?_
  have one (lvl sh) : QuoteOnly S (acc.2 ++ [PDiag.mk lvl sh [m.1]]) :=
    hacc.append (quoteOnly_singleton.mpr fun q hq => List.mem_singleton.mp hq ▸ h m hm)
  obtain ⟨p0, errs⟩ := acc
  dsimp only
  split
  · -- the two refusals of a MODRES record, and its application
    show QuoteOnly S (if _ then _ else if _ then _ else _ : PDB × List PDiag).2
    rw [apply_ite Prod.snd, apply_ite Prod.snd]
    exact quoteOnly_ite (one _ _) (quoteOnly_ite (one _ _) hacc)
  · exact hacc

theorem addBonds_quotes (p : PDB) (bonds : List ((Nat × List Char) × LexItem)) (h : ∀ b ∈ bonds, S b.1) :
    QuoteOnly S (addBonds p bonds).2 := by
  refine List.foldlRecOn (motive := fun acc : List (Nat × Nat) × List PDiag => QuoteOnly S acc.2) bonds _ quoteOnly_nil
    fun acc hacc b hb => ?_
  split
  · split
    · exact hacc
    · exact hacc.append (quoteOnly_singleton.mpr fun q hq => List.mem_singleton.mp hq ▸ h b hb)
  · exact hacc

theorem seqStep_quotes (st : SeqSt) (index : Int) (seq : List Char) (pos : Nat × Nat) (h : QuoteOnly S st.errs) :
    QuoteOnly S (seqStep st index seq pos).errs := by
  have bare (lvl sh) : QuoteOnly S (st.errs ++ [PDiag.mk lvl sh []]) := h.append (quoteOnly_bare _ _)
  unfold seqStep
  simp only
  repeat' split
  all_goals first | exact h | exact bare _ _

theorem seqresRecords_quotes (data : List (Nat × Nat × List (List Char))) : QuoteOnly S (seqresRecords data).1 := by
  refine List.foldlRecOn (motive := fun acc : List PDiag × Nat × Nat => QuoteOnly S acc.1) data _ quoteOnly_nil
    fun acc hacc d _ => ?_
  have h1 : QuoteOnly S (if (acc.2.1 != d.1) = true then acc.1 ++ [PDiag.mk .strictWarning "SEQRES serial number invalid" []]
      else acc.1) := quoteOnly_ite (hacc.append (quoteOnly_bare _ _)) hacc
  obtain ⟨errs, serial, residues⟩ := acc
  show QuoteOnly S (if _ then _ else if _ then _ else _ : List PDiag × Nat × Nat).1
  rw [apply_ite Prod.fst, apply_ite Prod.fst]
  exact quoteOnly_ite h1 (quoteOnly_ite (h1.append (quoteOnly_bare _ _)) h1)

theorem validateSeqresChain_quotes (ch : Chain) (db : Option DbRef) (cid : Char)
    (data : List (Nat × Nat × List (List Char))) (ls : List (Nat × List Char)) (h : ∀ l ∈ ls, S l) :
    QuoteOnly S (validateSeqresChain ch db cid data ls).2 := by
  have hwalk : QuoteOnly S (seqresWalk ch (seqresOffset db) (seqresNames data)).errs :=
    List.foldlRecOn (motive := fun st : SeqSt => QuoteOnly S st.errs) _ _ quoteOnly_nil
      fun st hst _ _ => seqStep_quotes st _ _ _ hst
  have hdb : QuoteOnly S (seqresDbTotal db (seqresRecords data).2.2) := by
    unfold seqresDbTotal
    split
    · exact quoteOnly_nil
    · exact quoteOnly_ite (quoteOnly_bare _ _) quoteOnly_nil
  exact ((((((seqresRecords_quotes data).append (quoteOnly_ite (quoteOnly_bare _ _) quoteOnly_nil)).append hdb).append
    hwalk).append (quoteOnly_ite quoteOnly_nil
      (quoteOnly_singleton.mpr fun q hq => h q (seqresQuoted_sub ls cid _ q hq)))).append
    (quoteOnly_ite (quoteOnly_bare _ _) quoteOnly_nil))

theorem validateSeqres_quotes (p : PDB) (dbrefs : List (Nat × DbRef))
    (seqres : List (Char × List (Nat × Nat × List (List Char)))) (ls : List (Nat × List Char)) (h : ∀ l ∈ ls, S l) :
    QuoteOnly S (validateSeqres p dbrefs seqres ls).2 := by
  refine List.foldlRecOn (motive := fun acc : PDB × List PDiag => QuoteOnly S acc.2) _ _ quoteOnly_nil
    fun acc hacc cd _ => ?_
  split
  · exact hacc
  · split
    · exact hacc
    · exact hacc.append (validateSeqresChain_quotes _ _ _ _ ls h)

theorem finishPdb_quotes (s : PState) (hm : ∀ m ∈ s.modifications, S m.1) (hb : ∀ b ∈ s.bonds, S b.1)
    (hq : ∀ l ∈ s.seqresLines, S l) : QuoteOnly S (finishPdb s).2.1 ∧ QuoteOnly S (finishPdb s).2.2 := by
  unfold finishPdb
  rw [flushModel_eq]
  exact ⟨(((resolveDbrefs_quotes _ _).append (rowsResult_quotes _ _)).append (rowsResult_quotes _ _)).append
      (mtrixResult_quotes _),
    (((validateSeqres_quotes _ _ _ _ hq).append (addModifications_quotes _ _ hm)).append (addBonds_quotes _ _ hb)).append
      fun d hd _ hq => by obtain ⟨x, _, rfl⟩ := List.mem_map.mp hd; cases hq⟩

end

/-- Every diagnostic the reader returns — with a structure or as a rejection list — that is anchored to lines
quotes, for each quoted line, the text that stands at the reported line number of the input. -/
theorem C05_context_lines (o : ReadOpts) (lines : List (List Char)) (f : PdbFile) (ds : List PDiag)
    (h : readPdbCore o lines = (f, ds)) : ∀ d ∈ ds, AnchoredD lines d := by
  have hinv : Inv lines (parseLines o lines) :=
    parseLines_induction (motive := Inv lines) o lines
      ⟨(fun _ h => nomatch h), (fun _ h => nomatch h), (fun _ h => nomatch h), (fun _ h => nomatch h)⟩
      fun s i line hi hs => stepLine_inv lines o s (i + 1) line ⟨Nat.le_add_left .., hi⟩ hs
  obtain ⟨h1, h2⟩ := finishPdb_quotes (S := AnchoredQ lines) _ hinv.mods hinv.bonds hinv.seqres
  rw [readPdbCore_eq] at h
  obtain ⟨-, rfl⟩ := Prod.mk.inj h
  exact (mergeRemarkWarnings_quotes _ (QuoteOnly.append hinv.errs h1)).append h2

/-! For every text and every option set the model reader answers with a
structure and diagnostics none of which fails the level, or with a rejection list that contains a diagnostic
failing the level (so it is never empty). Texts with SEQRES records are no exception: the SEQRES checks are part
of the model (`validateSeqres`). -/

theorem C05_classifies (o : ReadOpts) (lines : List (List Char)) :
    (∃ f ds, readPdb o lines = .ok f ds ∧ ds.any (fun e => e.level.fails o.level) = false) ∨
    (∃ ds, readPdb o lines = .err ds ∧ ds.any (fun e => e.level.fails o.level) = true ∧ ds ≠ []) := by
  rw [readPdb_eq]
  cases h : (readPdbCore o lines).2.any (fun e => e.level.fails o.level)
  · exact Or.inl ⟨_, _, rfl, h⟩
  · exact Or.inr ⟨_, rfl, h, fun he => by rw [he] at h; cases h⟩

end PdbModel
