/-
C14 — spatial and geometric queries equal a brute-force computation (the part that is logic).
The R*-tree clause (tree contents, radius and nearest-neighbour queries) is `rstar`'s code; its
specification is the brute-force scan and it is decided by the correspondence alone (see DESIGN §7 C14).
-/
import PdbModel.Dist
namespace PdbModel

theorem sq_eq_natAbs (x : Int) : sq x = ↑(x.natAbs * x.natAbs) := Int.natAbs_mul_self.symm

theorem sq_le_sq_iff (x y : Int) : sq x ≤ sq y ↔ x.natAbs ≤ y.natAbs := by
  rw [sq_eq_natAbs, sq_eq_natAbs, Int.ofNat_le, Nat.mul_self_le_mul_self_iff]

theorem sq_sub_comm (x y : Int) : sq (x - y) = sq (y - x) := by unfold sq; rw [← Int.neg_sub, Int.neg_mul_neg]
theorem sq_nonneg' (x : Int) : 0 ≤ sq x := by rw [sq_eq_natAbs]; exact Int.natCast_nonneg _
theorem sq_sub_eq_zero (x y : Int) : sq (y - x) = 0 ↔ x = y := by
  unfold sq; rw [Int.mul_eq_zero, or_self, Int.sub_eq_zero, eq_comm]

/-- atom distance is symmetric and Euclidean (sum of squared coordinate differences), zero exactly for
coincident atoms -/
theorem C14_dist (a b : Atom) :
    a.d2 b = b.d2 a ∧ 0 ≤ a.d2 b ∧ (a.d2 b = 0 ↔ (a.x = b.x ∧ a.y = b.y ∧ a.z = b.z)) := by
  unfold Atom.d2
  refine ⟨by rw [sq_sub_comm b.x, sq_sub_comm b.y, sq_sub_comm b.z], ?_⟩
  rw [← sq_sub_eq_zero a.x, ← sq_sub_eq_zero a.y, ← sq_sub_eq_zero a.z]
  have := sq_nonneg' (b.x - a.x); have := sq_nonneg' (b.y - a.y); have := sq_nonneg' (b.z - a.z)
  omega

def Box.contains (b : Box) (a : Atom) : Prop :=
  b.minX ≤ a.x ∧ a.x ≤ b.maxX ∧ b.minY ≤ a.y ∧ a.y ≤ b.maxY ∧ b.minZ ≤ a.z ∧ a.z ≤ b.maxZ

def Box.attained (b : Box) (l : List Atom) : Prop :=
  (∃ a ∈ l, a.x = b.minX) ∧ (∃ a ∈ l, a.x = b.maxX) ∧ (∃ a ∈ l, a.y = b.minY) ∧ (∃ a ∈ l, a.y = b.maxY) ∧
  (∃ a ∈ l, a.z = b.minZ) ∧ (∃ a ∈ l, a.z = b.maxZ)

theorem attained_step {seen : List Atom} {x : Atom} {f : Atom → Int} {m : Int} {c : Prop} [Decidable c]
    (h : ∃ a ∈ seen, f a = m) : ∃ a ∈ seen ++ [x], f a = if c then f x else m := by
  obtain ⟨a, ha, e⟩ := h
  split
  · exact ⟨x, by simp, rfl⟩
  · exact ⟨a, List.mem_append_left _ ha, e⟩

/-- one axis of `Box.add`: the interval grows to take in the new value and keeps what it held -/
theorem axis_widen {lo hi v a : Int} (h : lo ≤ a ∧ a ≤ hi ∨ a = v) :
    (if v < lo then v else lo) ≤ a ∧ a ≤ if v > hi then v else hi := by
  omega

theorem box_add_spec (b : Box) (x : Atom) (seen : List Atom)
    (hc : ∀ a ∈ seen, b.contains a) (ha : b.attained seen) :
    (∀ a ∈ seen ++ [x], (b.add x).contains a) ∧ (b.add x).attained (seen ++ [x]) := by
  obtain ⟨a1, a2, a3, a4, a5, a6⟩ := ha
  refine ⟨fun a hm => ?_, attained_step a1, attained_step a2, attained_step a3, attained_step a4, attained_step a5,
    attained_step a6⟩
  have h : b.contains a ∨ a = x := (List.mem_append.mp hm).imp (hc a) List.mem_singleton.mp
  have hx := axis_widen (h.imp (fun h => ⟨h.1, h.2.1⟩) (congrArg Atom.x))
  have hy := axis_widen (h.imp (fun h => ⟨h.2.2.1, h.2.2.2.1⟩) (congrArg Atom.y))
  have hz := axis_widen (h.imp (fun h => h.2.2.2.2) (congrArg Atom.z))
  exact ⟨hx.1, hx.2, hy.1, hy.2, hz.1, hz.2⟩

theorem foldl_box (rest seen : List Atom) (b : Box)
    (hc : ∀ a ∈ seen, b.contains a) (ha : b.attained seen) :
    (∀ a ∈ seen ++ rest, (rest.foldl Box.add b).contains a) ∧ (rest.foldl Box.add b).attained (seen ++ rest) := by
  induction rest generalizing seen b with
  | nil => simpa using ⟨hc, ha⟩
  | cons x xs ih =>
    obtain ⟨h1, h2⟩ := box_add_spec b x seen hc ha
    have := ih (seen ++ [x]) (b.add x) h1 h2
    simpa [List.append_assoc] using this

/-- the bounding box is the tightest axis-aligned box around all atoms: every atom lies inside and every
face is attained by some atom; there is no box exactly when there is no atom -/
theorem C14_bbox_tight (l : List Atom) :
    (boundingBox l = none ↔ l = []) ∧
    ∀ b, boundingBox l = some b → (∀ a ∈ l, b.contains a) ∧ b.attained l := by
  cases l with
  | nil => simp [boundingBox]
  | cons x xs =>
    refine ⟨by simp [boundingBox], ?_⟩
    intro b hb
    simp only [boundingBox, Option.some.injEq] at hb
    subst hb
    have := foldl_box xs [x] ⟨x.x, x.y, x.z, x.x, x.y, x.z⟩
      (by intro a ha; simp only [List.mem_singleton] at ha; subst ha; simp [Box.contains])
      (by simp [Box.attained])
    simpa using this

/-- the contact predicate says exactly "some atom pair is closer than the cut-off" … -/
theorem C14_contact_exact (c : Int) (c1 c2 : Chain) :
    inContact c c1 c2 = true ↔ (c > 0 ∧ ∃ a1 ∈ c1.atoms, ∃ a2 ∈ c2.atoms, a1.d2 a2 < sq c) := by
  unfold inContact
  simp only [Bool.and_eq_true, decide_eq_true_eq, List.any_eq_true]

/-- … and so is symmetric (distance is) -/
theorem C14_contact_symmetric (c : Int) (c1 c2 : Chain) : inContact c c1 c2 = inContact c c2 c1 := by
  rw [Bool.eq_iff_iff, C14_contact_exact, C14_contact_exact]
  have swap : ∀ {c1 c2 : Chain}, (∃ a1 ∈ c1.atoms, ∃ a2 ∈ c2.atoms, a1.d2 a2 < sq c) →
      ∃ a2 ∈ c2.atoms, ∃ a1 ∈ c1.atoms, a2.d2 a1 < sq c :=
    fun ⟨a1, h1, a2, h2, hd⟩ => ⟨a2, h2, a1, h1, (C14_dist a2 a1).1 ▸ hd⟩
  exact and_congr_right fun _ => ⟨swap, swap⟩

/-- a point within half an edge of the origin is at least as near as each of its translates by whole edges -/
theorem sq_le_sq_add_mul (x e k : Int) (h : 2 * x.natAbs ≤ e) : sq x ≤ sq (x + k * e) := by
  rw [sq_le_sq_iff]
  by_cases hk : k = 0
  · rw [hk, Int.zero_mul, Int.add_zero]
    exact Nat.le_refl _
  · have : e.natAbs ≤ (k * e).natAbs := by
      rw [Int.natAbs_mul]
      exact Nat.le_mul_of_pos_left _ (Int.natAbs_pos.mpr hk)
    omega

theorem wrapCoord_near (s o e : Int) (he : 0 < e) (hd : s - o ≤ e ∧ o - s ≤ e) :
    2 * (wrapCoord s o e - s).natAbs ≤ e ∧ ∃ i ∈ [(-1 : Int), 0, 1], wrapCoord s o e = o + i * e := by
  -- `wrapCoord` chooses among `o - e`, `o`, `o + e` by comparisons that are linear in `s`, `o`, `e`: each branch is arithmetic
  simp only [List.mem_cons, List.not_mem_nil, or_false, exists_eq_or_imp, exists_eq_left, wrapCoord]
  omega

theorem wrap_axis_min (s o e : Int) (he : 0 < e) (hd : s - o ≤ e ∧ o - s ≤ e) :
    (∀ i : Int, sq (wrapCoord s o e - s) ≤ sq (o + i * e - s)) ∧
    ∃ i ∈ [(-1 : Int), 0, 1], wrapCoord s o e = o + i * e := by
  obtain ⟨hnear, i₀, hi₀, hw⟩ := wrapCoord_near s o e he hd
  refine ⟨fun i => ?_, i₀, hi₀, hw⟩
  have := sq_le_sq_add_mul _ e (i - i₀) hnear
  rwa [show wrapCoord s o e - s + (i - i₀) * e = o + i * e - s by rw [hw, Int.sub_mul]; omega] at this

/-- wrapped (squared) distance = the minimum over the 27 neighbouring images -/
theorem C14_wrap_min (a b : Atom) (ea eb ec : Int) (ha : 0 < ea) (hb : 0 < eb) (hc : 0 < ec)
    (hx : a.x - b.x ≤ ea ∧ b.x - a.x ≤ ea) (hy : a.y - b.y ≤ eb ∧ b.y - a.y ≤ eb)
    (hz : a.z - b.z ≤ ec ∧ b.z - a.z ≤ ec) :
    (∀ i ∈ [(-1 : Int), 0, 1], ∀ j ∈ [(-1 : Int), 0, 1], ∀ k ∈ [(-1 : Int), 0, 1],
      a.d2Wrapping b ea eb ec ≤ sq (b.x + i * ea - a.x) + sq (b.y + j * eb - a.y) + sq (b.z + k * ec - a.z)) ∧
    (∃ i ∈ [(-1 : Int), 0, 1], ∃ j ∈ [(-1 : Int), 0, 1], ∃ k ∈ [(-1 : Int), 0, 1],
      a.d2Wrapping b ea eb ec = sq (b.x + i * ea - a.x) + sq (b.y + j * eb - a.y) + sq (b.z + k * ec - a.z)) := by
  obtain ⟨hX, i, hi, ei⟩ := wrap_axis_min a.x b.x ea ha hx
  obtain ⟨hY, j, hj, ej⟩ := wrap_axis_min a.y b.y eb hb hy
  obtain ⟨hZ, k, hk, ek⟩ := wrap_axis_min a.z b.z ec hc hz
  unfold Atom.d2Wrapping
  exact ⟨fun i _ j _ k _ => Int.add_le_add (Int.add_le_add (hX i) (hY j)) (hZ k),
    i, hi, j, hj, k, hk, by rw [ei, ej, ek]⟩

/-! overlap predicates agree with the radii table -/

theorem C14_overlap_table (radius : Nat → Option Int) (d2 : Int) (a b : Atom) :
    (overlapsWith radius d2 a b = none ↔ (radius a.element = none ∨ radius b.element = none)) ∧
    (∀ ra rb, radius a.element = some ra → radius b.element = some rb →
      overlapsWith radius d2 a b = some (decide (d2 ≤ sq (ra + rb)))) := by
  unfold overlapsWith
  cases h1 : radius a.element <;> cases h2 : radius b.element <;> simp

/-- the regenerated table: an atom without element has no radius; carbon's radii are the source's -/
example : unboundRadius 0 = none ∧ unboundRadius 6 = some 1900000 ∧ covalentRadius 6 = some 750000 ∧
    covalentRadius 119 = none := by decide

end PdbModel
