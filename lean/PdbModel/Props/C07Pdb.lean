/-
C07 on the PDB reader model.  The strictness level takes part in two places only: the lexer adds a general warning
to an over-long REMARK line at Medium and Strict, and the final gate.  Hence the structure that is read does not
depend on the level at all, Medium and Strict produce the same diagnostics, every diagnostic of a Loose read is also a
diagnostic of the stricter reads, and whatever is accepted at a stricter level is accepted — with the same structure —
at every more lenient one.
-/
import PdbModel.Lemmas.PdbRead
import PdbModel.Props.C07
namespace PdbModel

def withLevel (o : ReadOpts) (l : Strictness) : ReadOpts := { o with level := l }

/-- diagnostics of a line at level `a` are among those at level `b`: the one diagnostic that depends on the level,
the over-long-REMARK warning, is left out at Loose only -/
def SubLevel (a b : Strictness) : Prop := b = .loose → a = .loose

theorem lexRemark_level (ln : Nat) (line : List Char) (a b : Strictness) (h : SubLevel a b) :
    (lexRemark ln line a).1 = (lexRemark ln line b).1 ∧ (lexRemark ln line a).2 ⊆ (lexRemark ln line b).2 := by
  have hab : (a != .loose) = true → (b != .loose) = true :=
    fun ha => bne_iff_ne.mpr fun hb => bne_iff_ne.mp ha (h hb)
  unfold lexRemark
  simp only
  split
  · refine ⟨rfl, append_subset_append (List.Subset.refl _) ?_⟩
    cases ha : a != .loose
    · rw [Bool.and_false]; exact List.nil_subset _
    · rw [hab ha]; exact List.Subset.refl _
  · exact ⟨rfl, List.Subset.refl _⟩

theorem lexLineRaw_level (line : List Char) (ln : Nat) (a b : Strictness) (hab : SubLevel a b) (oa : Bool) :
    lexLineRaw line ln a oa = lexLineRaw line ln b oa ∨
    ∃ pa pb, lexLineRaw line ln a oa = .ok pa ∧ lexLineRaw line ln b oa = .ok pb ∧ pa.1 = pb.1 ∧ pa.2 ⊆ pb.2 := by
  unfold lexLineRaw
  by_cases h1 : byteLen line > 6
  · rw [if_pos h1, if_pos h1]
    dsimp only
    by_cases hhead : (!oa && String.ofList ((getBytes line 0 6).getD []) == "HEADER") = true
    · rw [if_pos hhead, if_pos hhead]
      exact Or.inl rfl
    · rw [if_neg hhead, if_neg hhead]
      by_cases hrem : (!oa && String.ofList ((getBytes line 0 6).getD []) == "REMARK") = true
      · rw [if_pos hrem, if_pos hrem]
        exact Or.inr ⟨_, _, rfl, rfl, lexRemark_level ln line a b hab⟩
      · rw [if_neg hrem, if_neg hrem]
        exact Or.inl rfl
  · rw [if_neg h1, if_neg h1]
    exact Or.inl rfl

theorem stepItem_level (o : ReadOpts) (a b : Strictness) (s : PState) (ctx : Nat × List Char) (item : LexItem) :
    stepItem (withLevel o a) s ctx item = stepItem (withLevel o b) s ctx item := by
  cases item <;> rfl

/-- two reads side by side: the same parser state apart from the diagnostics, those of the first among the second -/
def LevRel (sa sb : PState) : Prop := sa.noErr = sb.noErr ∧ sa.errors ⊆ sb.errors

theorem stepLexed_level (o : ReadOpts) (a b : Strictness) (sa sb : PState) (ln : Nat) (line : List Char)
    (h : LevRel sa sb) (pa pb : LexItem × List PDiag) (hi : pa.1 = pb.1) (he : pa.2 ⊆ pb.2) :
    LevRel (stepLexed (withLevel o a) sa ln line (.ok pa)) (stepLexed (withLevel o b) sb ln line (.ok pb)) := by
  rw [stepLexed, stepLexed, stepItem_level o a b, h.1, hi]
  exact ⟨rfl, append_subset_append (append_subset_append h.2 he) (List.Subset.refl _)⟩

theorem stepLine_level (o : ReadOpts) (a b : Strictness) (hab : SubLevel a b) (sa sb : PState) (ln : Nat)
    (line : List Char) (h : LevRel sa sb) :
    LevRel (stepLine (withLevel o a) sa ln line) (stepLine (withLevel o b) sb ln line) := by
  have hst : sb.stopped = sa.stopped := (congrArg PState.stopped h.1).symm
  rw [stepLine_eq, stepLine_eq, hst]
  split
  · exact h
  · show LevRel (stepLexed _ sa ln line (lexLine line ln a o.onlyAtomicCoords))
      (stepLexed _ sb ln line (lexLine line ln b o.onlyAtomicCoords))
    unfold lexLine
    rcases lexLineRaw_level line ln a b hab o.onlyAtomicCoords with hl | ⟨pa, pb, ha, hb, hi, he⟩
    · rw [hl]
      cases lexLineRaw line ln b o.onlyAtomicCoords with
      | error e => exact ⟨h.1, append_subset_append h.2 (List.Subset.refl _)⟩
      | ok p => exact stepLexed_level o a b sa sb ln line h _ _ rfl (List.Subset.refl _)
    · rw [ha, hb]
      exact stepLexed_level o a b sa sb ln line h _ _ hi (List.map_subset _ he)

theorem readLevel_rel (o : ReadOpts) (a b : Strictness) (hab : SubLevel a b) (lines : List (List Char)) :
    LevRel (parseLines (withLevel o a) lines) (parseLines (withLevel o b) lines) :=
  List.foldl_rel ⟨rfl, List.Subset.refl _⟩ fun _ _ sa sb h => stepLine_level o a b hab sa sb _ _ h

/-- **the level does not shape the structure**: hierarchy, metadata, bonds and exactness flag of what the PDB
reader builds are the same at every strictness level -/
theorem C07_pdb_level_only_gates_structure (o : ReadOpts) (a b : Strictness) (lines : List (List Char)) :
    (readPdbCore (withLevel o a) lines).1 = (readPdbCore (withLevel o b) lines).1 := by
  -- compare both with the Loose read
  have key (l) : (readPdbCore (withLevel o .loose) lines).1 = (readPdbCore (withLevel o l) lines).1 :=
    readPdbCore_file _ _ _ _ (readLevel_rel o .loose l (fun _ => rfl) lines).1
  rw [← key a, ← key b]

theorem merge_sub (xa xb : List PDiag) (h : xa ⊆ xb) :
    ∀ d ∈ mergeRemarkWarnings xa, d ∈ mergeRemarkWarnings xb ∨ d.level = .generalWarning := by
  intro d hd
  rcases (mem_mergeRemarkWarnings xa d).mp hd with ⟨hin, hs⟩ | ⟨_, rfl⟩
  · exact Or.inl ((mem_mergeRemarkWarnings xb d).mpr (Or.inl ⟨h hin, hs⟩))
  · exact Or.inr rfl

/-- every diagnostic of the read at the lower level is a diagnostic of the read at the higher one, or a general
warning (the merged over-long-REMARK warning, which only Strict refuses) -/
theorem core_diags_sub (o : ReadOpts) (a b : Strictness) (hab : SubLevel a b) (lines : List (List Char)) :
    ∀ d ∈ (readPdbCore (withLevel o a) lines).2, d ∈ (readPdbCore (withLevel o b) lines).2 ∨ d.level = .generalWarning := by
  obtain ⟨hne, hsub⟩ := readLevel_rel o a b hab lines
  rw [readPdbCore_eq, readPdbCore_eq, ← finishPdb_noErr, hne, finishPdb_noErr]
  intro d hd
  rcases List.mem_append.mp hd with hd | hd
  · exact (merge_sub _ _ (append_subset_append hsub (List.Subset.refl _)) d hd).imp_left (List.mem_append_left _)
  · exact Or.inl (List.mem_append_right _ hd)

theorem pdb_accept_of_sub (o : ReadOpts) (hi lo : Strictness) (hsub : SubLevel lo hi)
    (hmono : ∀ e : ErrorLevel, e.fails lo = true → e.fails hi = true) (hgen : ErrorLevel.generalWarning.fails lo = false)
    (lines : List (List Char)) (f : PdbFile) (ds : List PDiag) (h : readPdb (withLevel o hi) lines = .ok f ds) :
    ∃ ds', readPdb (withLevel o lo) lines = .ok f ds' := by
  obtain ⟨hc, hall⟩ := (readPdb_eq_ok ..).mp h
  have hf : (readPdbCore (withLevel o hi) lines).1 = f := congrArg Prod.fst hc
  have hds : (readPdbCore (withLevel o hi) lines).2 = ds := congrArg Prod.snd hc
  refine ⟨_, (readPdb_eq_ok ..).mpr
    ⟨Prod.ext ((C07_pdb_level_only_gates_structure o lo hi lines).trans hf) rfl, fun d hd => ?_⟩⟩
  rcases core_diags_sub o lo hi hsub lines d hd with hin | hg
  · exact passes_mono hmono (hall d (hds ▸ hin))
  · rw [hg]; exact hgen

/-- **accepted at a stricter level, accepted at a more lenient one, with the same structure** (PDB reader):
Strict → Medium and Medium → Loose (hence Strict → Loose) -/
theorem C07_pdb_accept_monotone (o : ReadOpts) (lines : List (List Char)) (f : PdbFile) (ds : List PDiag) :
    (readPdb (withLevel o .strict) lines = .ok f ds → ∃ ds', readPdb (withLevel o .medium) lines = .ok f ds') ∧
    (readPdb (withLevel o .medium) lines = .ok f ds → ∃ ds', readPdb (withLevel o .loose) lines = .ok f ds') :=
  ⟨pdb_accept_of_sub o .strict .medium (fun h => nomatch h) (fun e => (C07_fails_monotone e).2) rfl lines f ds,
   pdb_accept_of_sub o .medium .loose (fun _ => rfl) (fun e => (C07_fails_monotone e).1) rfl lines f ds⟩

end PdbModel
