/-
C09 — all ways of walking a structure agree (counts, flat iterators, index accessors, reverse,
hierarchy tuples). The walk functions of `PdbModel/Hier.lean` mirror the delegation structure of the
accessors (sums over children, `flat_map` compositions, first model only for the plain counts).
Parallel and mutable variants are specified to equal the sequential ones and are exercised by the tie
only (thread schedules are not modelled).
-/
import PdbModel.Lemmas.Hier
namespace PdbModel

theorem sum_map_count {α β} (l : List α) (cnt : α → Nat) (w : α → List β) (h : ∀ x, cnt x = (w x).length) :
    (l.map cnt).sum = (l.flatMap w).length := by
  rw [List.length_flatMap, funext h]

theorem foldl_add_count {α β} (l : List α) (cnt : α → Nat) (w : α → List β) (h : ∀ x, cnt x = (w x).length) :
    l.foldl (fun a x => a + cnt x) 0 = (l.flatMap w).length := by
  rw [← sum_map_count l cnt w h, List.sum_eq_foldl_nat, List.foldl_map]

/-- every count accessor equals the length of the corresponding traversal, at every level -/
theorem C09_counts_residue (r : Residue) :
    r.conformerCount = r.conformers.length ∧ r.atomCount = r.atoms.length := by
  refine ⟨rfl, ?_⟩
  unfold Residue.atomCount
  simp only [Nat.add_comm]
  exact foldl_add_count _ _ _ fun _ => rfl

theorem C09_counts_chain (c : Chain) :
    c.residueCount = c.residues.length ∧ c.conformerCount = c.conformers.length ∧
    c.atomCount = c.atoms.length :=
  ⟨rfl, sum_map_count _ _ _ fun _ => rfl, sum_map_count _ _ _ fun r => (C09_counts_residue r).2⟩

theorem C09_counts_model (m : Model) :
    m.chainCount = m.chains.length ∧ m.residueCount = m.residues.length ∧
    m.conformerCount = m.conformers.length ∧ m.atomCount = m.atoms.length :=
  ⟨rfl, sum_map_count _ _ _ fun _ => rfl, sum_map_count _ _ _ fun c => (C09_counts_chain c).2.1,
    sum_map_count _ _ _ fun c => (C09_counts_chain c).2.2⟩

/-- plain structure-level counts refer to the first model, total counts to all models -/
theorem C09_counts_pdb (p : PDB) :
    p.modelCount = p.models.length ∧
    p.chainCount = (p.models.head?.map (·.chains.length)).getD 0 ∧
    p.residueCount = (p.models.head?.map (·.residues.length)).getD 0 ∧
    p.conformerCount = (p.models.head?.map (·.conformers.length)).getD 0 ∧
    p.atomCount = (p.models.head?.map (·.atoms.length)).getD 0 ∧
    p.totalChainCount = p.chains.length ∧ p.totalResidueCount = p.residues.length ∧
    p.totalConformerCount = p.conformers.length ∧ p.totalAtomCount = p.atoms.length := by
  refine ⟨rfl, ?_, ?_, ?_, ?_, foldl_add_count _ _ _ fun _ => rfl,
    foldl_add_count _ _ _ fun m => (C09_counts_model m).2.1,
    foldl_add_count _ _ _ fun m => (C09_counts_model m).2.2.1,
    foldl_add_count _ _ _ fun m => (C09_counts_model m).2.2.2⟩
  · cases h : p.models <;> simp [PDB.chainCount, h, Model.chainCount]
  · cases h : p.models <;> simp [PDB.residueCount, h, (C09_counts_model _).2.1]
  · cases h : p.models <;> simp [PDB.conformerCount, h, (C09_counts_model _).2.2.1]
  · cases h : p.models <;> simp [PDB.atomCount, h, (C09_counts_model _).2.2.2]

/-- flat iterators equal the nested traversal, whichever intermediate level one descends through -/
theorem C09_flat_eq_nested (p : PDB) :
    p.atoms = p.chains.flatMap (·.atoms) ∧
    p.atoms = p.residues.flatMap (·.atoms) ∧
    p.atoms = p.conformers.flatMap (·.atoms) ∧
    p.conformers = p.residues.flatMap (·.conformers) ∧
    p.conformers = p.chains.flatMap (·.conformers) ∧
    p.residues = p.chains.flatMap (·.residues) := by
  simp only [PDB.atoms, PDB.chains, PDB.residues, PDB.conformers, Model.atoms, Model.residues,
    Model.conformers, Chain.atoms, Chain.conformers, Residue.atoms, List.flatMap_assoc]
  exact ⟨trivial, trivial, trivial, trivial, trivial, trivial⟩

theorem C09_flat_eq_nested_model (m : Model) :
    m.atoms = m.residues.flatMap (·.atoms) ∧ m.atoms = m.conformers.flatMap (·.atoms) ∧
    m.conformers = m.residues.flatMap (·.conformers) := by
  simp only [Model.atoms, Model.residues, Model.conformers, Chain.atoms, Chain.conformers,
    Residue.atoms, List.flatMap_assoc]
  exact ⟨trivial, trivial, trivial⟩

theorem C09_flat_eq_nested_chain (c : Chain) : c.atoms = c.conformers.flatMap (·.atoms) := by
  simp only [Chain.atoms, Chain.conformers, Residue.atoms, List.flatMap_assoc]

/-- index accessors (`iter().nth(i)`) return the i-th element of the traversal or nothing;
reverse iteration is the exact reverse (`List` semantics, stated for completeness of the model) -/
theorem C09_nth {α} (l : List α) (i : Nat) :
    (l[i]? = none ↔ l.length ≤ i) ∧ (∀ h : i < l.length, l[i]? = some l[i]) := by
  exact ⟨List.getElem?_eq_none_iff, fun h => List.getElem?_eq_getElem h⟩

theorem C09_rev {α} (l : List α) (i : Nat) (h : i < l.length) :
    l.reverse[i]? = l[l.length - 1 - i]? := by
  rw [List.getElem?_reverse h]

/-- the atom components of the hierarchy tuples are the flat atom list, in order -/
theorem C09_hierarchy_atoms (p : PDB) : p.withH.map (·.atom) = p.atoms := by
  simp only [PDB.withH, PDB.atoms, List.map_flatMap, List.map_map, Function.comp_def, Model.map_atom_withHACRC]

/-- every tuple names the atom's actual ancestors -/
theorem C09_hierarchy_tuples (p : PDB) (h : HACRCM) (hm : h ∈ p.withH) :
    h.atom ∈ h.conformer.atoms ∧ h.conformer ∈ h.residue.conformers ∧
    h.residue ∈ h.chain.residues ∧ h.chain ∈ h.model.chains ∧ h.model ∈ p.models := by
  simp only [PDB.withH, Model.withHACRC, Chain.withHACR, Residue.withHAC, Conformer.withH,
    List.mem_flatMap, List.mem_map] at hm
  obtain ⟨m, hmm, h3, ⟨c, hc, h2, ⟨r, hr, h1, ⟨f, hf, a, ha, rfl⟩, rfl⟩, rfl⟩, rfl⟩ := hm
  exact ⟨ha, hf, hr, hc, hmm⟩

/-- non-vacuity / a ragged example with an empty conformer and an empty chain -/
example :
    let a : Atom := default
    let p : PDB := ⟨[⟨1, [⟨"A", [⟨1, none, [⟨"ALA", none, [a, a], none⟩, ⟨"ALA", some "B", [], none⟩]⟩]⟩, ⟨"B", []⟩]⟩, ⟨2, []⟩]⟩
    p.atomCount = 2 ∧ p.totalAtomCount = 2 ∧ p.conformerCount = 2 ∧ p.chainCount = 2 ∧ p.withH.length = 2 := by
  decide

end PdbModel
