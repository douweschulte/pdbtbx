/-
C07 on the mmCIF reader model: the strictness level takes part in nothing but the final gate.
-/
import PdbModel.CifRead
import PdbModel.Lemmas.PdbRead
import PdbModel.Props.C07
namespace PdbModel

theorem readCifBlock_eq_ok (o : ReadOpts) (b : DataBlock) (f : PdbFile) (ds : List PDiag) :
    readCifBlock o b = .ok f ds ↔ readCifCore o b = (f, ds) ∧ ∀ d ∈ ds, d.level.fails o.level = false := by
  unfold readCifBlock
  exact gate_eq_ok

/-- **the level only gates**: structure, metadata and the complete diagnostics list of the mmCIF reader do not
depend on the strictness level -/
theorem C07_cif_level_only_gates (o : ReadOpts) (l : Strictness) (b : DataBlock) :
    readCifCore { o with level := l } b = readCifCore o b := rfl

/-- … so an input accepted at a stricter level is accepted, with the same result and the same diagnostics, at
every more lenient level -/
theorem C07_cif_accept_monotone (o : ReadOpts) (b : DataBlock) (f : PdbFile) (ds : List PDiag) :
    (readCifBlock { o with level := .strict } b = .ok f ds → readCifBlock { o with level := .medium } b = .ok f ds) ∧
    (readCifBlock { o with level := .medium } b = .ok f ds → readCifBlock { o with level := .loose } b = .ok f ds) := by
  have key : ∀ (l1 l2 : Strictness), (∀ e : ErrorLevel, e.fails l2 = true → e.fails l1 = true) →
      readCifBlock { o with level := l1 } b = .ok f ds → readCifBlock { o with level := l2 } b = .ok f ds := by
    intro l1 l2 hmono h
    rw [readCifBlock_eq_ok, C07_cif_level_only_gates] at h ⊢
    exact ⟨h.1, fun d hd => passes_mono hmono (h.2 d hd)⟩
  exact ⟨key .strict .medium fun e => (C07_fails_monotone e).2, key .medium .loose fun e => (C07_fails_monotone e).1⟩

end PdbModel
