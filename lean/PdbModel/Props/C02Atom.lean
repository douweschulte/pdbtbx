/-
C02 — rows → atoms.  One row of the atom_site loop adds at most one atom to the structure, never touches another
one, and the atom it adds is the one `Atom::new` builds from the row's own cells (name, id, coordinates from the
mandatory columns).  Over a whole loop, the number of atoms never exceeds the number of rows.

Nothing is dropped silently.  A row of the atom_site loop is skipped by only-first-model, or leaves at least one
more diagnostic, or adds its atom: there is no fourth way.  In particular a row whose identifiers pass the parser's own
check is never refused by `Model::add_atom` afterwards.
-/
import PdbModel.Lemmas.CifRow
import PdbModel.Lemmas.Add
namespace PdbModel

def modelsAtoms (ms : List Model) : List Atom := ms.flatMap (·.atoms)

/-- **`Model::add_atom` adds exactly the atom it is given** (whatever the identifiers): the atoms of the model
afterwards are the atoms before plus that atom, up to order -/
theorem C02_model_add_atom_adds_the_atom (m m' : Model) (o : RawMOp) (h : m.addAtom o = some m') :
    m'.atoms.Perm (m.atoms ++ [o.2.2.2]) := by
  unfold Model.addAtom at h
  obtain ⟨op, hn, rfl⟩ := Option.map_eq_some_iff.mp h
  rw [← normMOp_atom hn]
  exact model_addAtomN_perm m op

theorem pair_snd_models {α} {p : α × AState} {a : α} {t : AState} (h : p = (a, t)) : t.models = p.2.models := by
  subst h; rfl
theorem pair_fst {α} {p : Option α × AState} {a : Option α} {t : AState} (h : p = (a, t)) : p.1 = a := by
  subst h; rfl

theorem rowModel_atoms (ms : List Model) (n : Nat) : modelsAtoms (rowModel ms n).1 = modelsAtoms ms := by
  rcases rowModel_cases ms n with ⟨_, _, _, _, h⟩ | ⟨_, h⟩ <;> rw [h]
  simp [modelsAtoms, Model.atoms]

theorem place_perm (ms : List Model) (n : Nat) (m m' : Model) (o : RawMOp)
    (hm : (rowModel ms n).1[(rowModel ms n).2]? = some m) (h : m.addAtom o = some m') :
    (modelsAtoms ((rowModel ms n).1.set (rowModel ms n).2 m')).Perm (modelsAtoms ms ++ [o.2.2.2]) :=
  rowModel_atoms ms n ▸
    perm_flatMap_set Model.atoms [o.2.2.2] _ _ m m' hm (C02_model_add_atom_adds_the_atom m m' o h)

theorem atomRowCore_atoms (olf : Bool) (vals : List (Option CifValue)) (s : AState) :
    modelsAtoms (atomRowCore olf s vals).models = modelsAtoms s.models ∨
    ∃ op, IsRowOp vals op ∧ (modelsAtoms (atomRowCore olf s vals).models).Perm (modelsAtoms s.models ++ [op.2.2.2]) := by
  rcases atomRowCore_models olf vals s with h | h | ⟨op, m, m', hop, hm, hadd, h⟩
  · exact Or.inl (by rw [h])
  · exact Or.inl (by rw [h, rowModel_atoms])
  · exact Or.inr ⟨op, hop, h ▸ place_perm _ _ m m' op hm hadd⟩

/-- what a row can do to the atoms of the structure: nothing, or add `atom` -/
def RowEffect (vals : List (Option CifValue)) (before after : List Model) : Prop :=
  modelsAtoms after = modelsAtoms before ∨
  ∃ (c : RowCells) (a0 atom : Atom) (ex het : Bool) (cnt : Nat),
    (colText ((vals[19]?).join)).val = some c.name ∧ (colText ((vals[16]?).join)).val = some c.id ∧
    (colText ((vals[14]?).join)).val = some c.resName ∧
    (colF64 ((vals[24]?).join)).val = some c.x ∧ (colF64 ((vals[25]?).join)).val = some c.y ∧
    (colF64 ((vals[26]?).join)).val = some c.z ∧
    atomNew het cnt c.id c.name c.x c.y c.z ((colF64 ((vals[20]?).join)).val.getD (fltInt 1))
      ((colF64 ((vals[12]?).join)).val.getD (fltInt 1)) ((colText ((vals[23]?).join)).val.getD [])
      ((colIsize ((vals[13]?).join)).val.getD 0) = some (a0, ex) ∧
    (atom = a0 ∨ ∃ t, atom = { a0 with atf := some t }) ∧
    (modelsAtoms after).Perm (modelsAtoms before ++ [atom])

/-- **one row, at most one atom, made from the row's own cells**: a row of the atom_site loop either leaves the
atoms of the structure as they are (it is skipped, refused with a diagnostic, or its identifiers are refused), or adds
exactly one atom — the one `Atom::new` builds from the row's atom id, atom name and coordinates (mandatory cells) and
its occupancy, B-factor, element and charge cells (or their documented defaults), with the nine tensor cells attached
when all are there — and every atom that was there before is still there -/
theorem C02_row_adds_at_most_its_atom (olf : Bool) (s : AState) (vals : List (Option CifValue)) :
    RowEffect vals s.models (atomRowCore olf s vals).models := by
  rcases atomRowCore_atoms olf vals s with h | ⟨op, hop, hp⟩
  · exact Or.inl h
  · obtain ⟨chain, resName, num, _, _, hres, _, _, _, _, _, name, id, x, y, z, a0, ex, het, cnt, hname, hid, hx, hy, hz,
      hnew, hat⟩ := hop
    exact Or.inr ⟨⟨name, id, resName, num, chain, x, y, z⟩, a0, op.2.2.2, ex, het, cnt, hname, hid, hres, hx, hy, hz, hnew,
      hat, hp⟩

/-- the diagnostics only grow -/
def Ext (s t : AState) : Prop := ∃ e, t.errors = s.errors ++ e
/-- ... by at least one -/
def ExtNE (s t : AState) : Prop := ∃ e, e ≠ [] ∧ t.errors = s.errors ++ e

theorem ExtNE.of_ext_right {s t u : AState} (h1 : ExtNE s t) (h2 : Ext t u) : ExtNE s u := by
  obtain ⟨e1, hne, h1⟩ := h1; obtain ⟨e2, h2⟩ := h2
  exact ⟨e1 ++ e2, by simp [hne], by rw [h2, h1, List.append_assoc]⟩

/-- what a row that got as far as its atom can still do: leave a diagnostic, or add the atom -/
def Placed (s r : AState) : Prop := ∃ atom, (modelsAtoms r.models).Perm (modelsAtoms s.models ++ [atom])

/-- **nothing is dropped silently**: a row is skipped by only-first-model (it states another model than the first kept
row), or it leaves at least one more diagnostic, or it adds one atom to the structure -/
theorem C02_row_placed_or_reported (olf : Bool) (s : AState) (vals : List (Option CifValue)) :
    (olf = true ∧ ∃ f, s.firstModel = some f ∧ rowNumber vals ≠ f) ∨
    ExtNE s (atomRowCore olf s vals) ∨ Placed s (atomRowCore olf s vals) := by
  have h := atomRowCore_step olf vals s
  generalize atomRowCore olf s vals = r at h ⊢
  cases h with
  | skipped f holf hfm hn => exact Or.inl ⟨holf, f, hfm, hn⟩
  | kept fm _ hk =>
    right
    cases hk with
    | reported hne => exact Or.inl ⟨_, hne, rfl⟩
    | notNew _ hne => exact Or.inl ⟨_, hne, rfl⟩
    | placed op m m' _ _ _ _ hm hadd =>
      exact Or.inr ⟨op.2.2.2, place_perm _ _ m m' op hm hadd⟩

theorem atomRow_bound (o : ReadOpts) (s : AState) (vals : List (Option CifValue)) :
    (modelsAtoms (atomRow o s vals).models).length ≤ (modelsAtoms s.models).length + 1 ∧
    ∀ a ∈ modelsAtoms s.models, a ∈ modelsAtoms (atomRow o s vals).models := by
  unfold atomRow
  split
  · exact ⟨Nat.le_succ _, fun a ha => ha⟩
  · rcases atomRowCore_atoms o.onlyFirstModel vals s with h | ⟨op, -, hp⟩
    · rw [h]
      exact ⟨Nat.le_succ _, fun a ha => ha⟩
    · exact ⟨Nat.le_of_eq (hp.length_eq.trans List.length_append),
        fun a ha => hp.mem_iff.mpr (List.mem_append_left _ ha)⟩

theorem rows_bound (o : ReadOpts) (header : List (List Char)) (rows : List (List CifValue)) (s : AState) :
    (modelsAtoms (rows.foldl (fun (s : AState) (row : List CifValue) => atomRow o s (rowVals header row)) s).models).length
        ≤ (modelsAtoms s.models).length + rows.length ∧
    ∀ a ∈ modelsAtoms s.models,
      a ∈ modelsAtoms (rows.foldl (fun (s : AState) (row : List CifValue) => atomRow o s (rowVals header row)) s).models := by
  induction rows generalizing s with
  | nil => exact ⟨Nat.le_refl _, fun a ha => ha⟩
  | cons r rs ih =>
    simp only [List.foldl_cons, List.length_cons]
    obtain ⟨h1, h2⟩ := atomRow_bound o s (rowVals header r)
    obtain ⟨i1, i2⟩ := ih (atomRow o s (rowVals header r))
    exact ⟨by omega, fun a ha => i2 a (h2 a ha)⟩

/-- **no atom without a row, no atom lost**: after the atom_site loop the structure holds at most one atom more per
row, and every atom it held before is still there -/
theorem C02_no_atom_without_a_row (o : ReadOpts) (models : List Model) (header : List (List Char))
    (rows : List (List CifValue)) :
    (modelsAtoms (parseAtoms o models header rows).1).length ≤ (modelsAtoms models).length + rows.length ∧
    ∀ a ∈ modelsAtoms models, a ∈ modelsAtoms (parseAtoms o models header rows).1 := by
  unfold parseAtoms
  split
  · exact ⟨Nat.le_add_right _ _, fun a ha => ha⟩
  · exact rows_bound o header rows { models := models }

/-- non-vacuity: a complete row (label chain A, residue ALA 1, atom CA with id 1 at 1.5 2 3, element C) does add
its atom to an empty structure -/
def exampleRow : List (Option CifValue) :=
  [none, none, none, none, none, none, none, none, none, none,
   some (.text ['A']), none, none, none, some (.text ['A', 'L', 'A']), none, some (.num (.fin 1 0) 1 ['1']), none, none,
   some (.text ['C', 'A']), none, some (.num (.fin 1 0) 1 ['1']), none, some (.text ['C']),
   some (.num (.fin 15 (-1)) 2 ['1', '.', '5']), some (.num (.fin 2 0) 1 ['2']), some (.num (.fin 3 0) 1 ['3'])]
example : (modelsAtoms (atomRowCore false { models := [] } exampleRow).models).length = 1 := by decide +kernel

end PdbModel
