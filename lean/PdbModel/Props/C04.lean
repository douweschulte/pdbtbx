/-
C04 — mmCIF write → read round trip.

The writer model (`CifWrite.lean`) is tied to `save_mmcif_raw` byte for byte by the correspondence; the full
round-trip identity is decided per structure by the write/read/write oracle on the real code (PARTIAL as a
theorem).  Proved here is the step the round trip of every cell rests on: a word written into a padded table
cell is read back by the lexer model as exactly the value it spells.
-/
import PdbModel.CifWrite
import PdbModel.Props.C02
import PdbModel.Lemmas.CifLex
namespace PdbModel

/-- **one cell**: after any padding, a cell followed by white space is lexed as the value it spells and the
input continues at that white space -/
theorem parseValue_cell (pad t rest : List Char) (w : Char) (hp : Pad pad) (hw : isAsciiWs w = true)
    (ht : Cell t) : parseValue (pad ++ (t ++ w :: rest)) = .ok (classify t, w :: rest) := by
  -- a cell begins with an ordinary character, holds no white space and begins no reserved word
  obtain ⟨c, r, rfl, hord, hws, hres⟩ : ∃ c r, t = c :: r ∧ isOrdinary c = true ∧
      (∀ x ∈ t, isAsciiWs x = false) ∧ reservedStart t = false := by
    rcases ht with ⟨⟨c, r, rfl, hord, _, _⟩, hws, hres⟩ | rfl | rfl
    · exact ⟨c, r, rfl, hord, hws, hres⟩
    · exact ⟨'.', [], rfl, by decide, by decide, reservedStart_head _ _ (by decide)⟩
    · exact ⟨'?', [], rfl, by decide, by decide, reservedStart_head _ _ (by decide)⟩
  have hid := identOf_append_ws (c :: r) rest w hw hws
  rw [List.cons_append] at hid ⊢
  rw [C02_value_layout hp,
    parseValue_ordinary c _ hord (by rw [← List.cons_append, reservedStart_append_ws _ rest w hw, hres]), hid.1, hid.2]
  rcases ht with ht | h | h
  · rw [classify_word ht]
    obtain ⟨⟨_, _, he, _, hdot, hq⟩, _⟩ := ht
    cases he
    rw [if_neg (by simpa using hdot), if_neg (by simpa using hq)]
    cases parseNumeric (c :: r) <;> rfl
  · cases h
    rfl
  · cases h
    rfl

/-- **a written bare word is read back**: after any padding, a bare word followed by a blank is lexed as the
text value it spells and the input continues right behind it -/
theorem C04_bare_word_read_back (pad t rest : List Char) (hp : Pad pad) (ht : BareWord t)
    (hres : reservedStart (t ++ ' ' :: rest) = false) :
    parseValue (pad ++ (t ++ ' ' :: rest)) = .ok (.text t, ' ' :: rest) := by
  have _ := hres -- follows from `ht` (`reservedStart_append_ws`)
  rw [parseValue_cell pad t rest ' ' hp (by decide) (.inl ht.word), classify_word ht.word, ht.2.2.2]

/-- non-vacuity: residue and atom names of the kind the writer emits -/
example : BareWord "ALA".toList ∧ BareWord "CA".toList ∧ BareWord "0AF".toList := by
  refine ⟨⟨⟨_, _, rfl, by decide, by decide, by decide⟩, by decide, reservedStart_head _ _ (by decide), by decide⟩,
    ⟨⟨_, _, rfl, by decide, by decide, by decide⟩, by decide, reservedStart_head _ _ (by decide), by decide⟩,
    ⟨⟨_, _, rfl, by decide, by decide, by decide⟩, by decide, reservedStart_head _ _ (by decide), by decide⟩⟩

/-- every line of the aligned table starts with the first cell of its row -/
theorem C04_rows_kept (rows : List (List (List Char))) : (alignRows rows).length = rows.length := by
  unfold alignRows
  cases rows with
  | nil => rfl
  | cons f r => exact List.length_map _

end PdbModel
