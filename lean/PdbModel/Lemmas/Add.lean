/-
Keyed insertion as the hierarchy does it (`upsertC`: the first child with the key gets the update, otherwise a fresh
child is appended; `upsertLastC`: the same, searching from the back) through the generic grouping lemma of
`Lemmas/Group`: keys stay distinct, a fold of insertions is the declarative grouping (`foldl_upsertC_eq_spec`), the
children hold afterwards what they held plus what was added, up to order. Then the three levels of add-atom as such folds.
-/
import PdbModel.Add
import PdbModel.Lemmas.Group
import PdbModel.Lemmas.List
namespace PdbModel
open Grp

section Keyed
variable {C K : Type} [DecidableEq K]

/-- keyed children seen as the association list that the grouping lemma of `Grp` speaks about -/
def pairs (key : C → K) (cs : List C) : List (K × C) := cs.map fun c => (key c, c)

theorem dedupK_eq (l : List K) : dedupK l = dedup l := rfl

omit [DecidableEq K] in
theorem pairs_fst (key : C → K) (cs : List C) : (pairs key cs).map (·.1) = cs.map key :=
  List.map_map

omit [DecidableEq K] in
theorem pairs_snd (key : C → K) (cs : List C) : (pairs key cs).map (·.2) = cs :=
  List.map_map.trans (List.map_id' cs)

theorem pairs_upsertC (key : C → K) (mk : K → C) (upd : C → C)
    (hupd : ∀ c, key (upd c) = key c) (hmk : ∀ k, key (mk k) = k) (cs : List C) (k : K) :
    pairs key (upsertC key mk upd cs k) = upsert mk (pairs key cs) k upd := by
  induction cs with
  | nil => simp [upsertC, pairs, upsert, hupd, hmk]
  | cons c cs ih =>
    simp only [upsertC, pairs, List.map_cons, upsert]
    by_cases h : key c = k
    · simp [h, hupd]
    · simp only [h, if_false, List.map_cons]
      congr 1

theorem keys_upsertC (key : C → K) (mk : K → C) (upd : C → C)
    (hupd : ∀ c, key (upd c) = key c) (hmk : ∀ k, key (mk k) = k) (cs : List C) (k : K) :
    (upsertC key mk upd cs k).map key = if k ∈ cs.map key then cs.map key else cs.map key ++ [k] := by
  rw [← pairs_fst, pairs_upsertC key mk upd hupd hmk, upsert_keys, pairs_fst]

theorem nodup_upsertC (key : C → K) (mk : K → C) (upd : C → C)
    (hupd : ∀ c, key (upd c) = key c) (hmk : ∀ k, key (mk k) = k) (cs : List C) (k : K)
    (h : (cs.map key).Nodup) : ((upsertC key mk upd cs k).map key).Nodup := by
  rw [keys_upsertC key mk upd hupd hmk]
  exact nodup_snoc_if _ k h

theorem keys_foldl_upsertC {O : Type} (key : C → K) (mk : K → C) (step : C → O → C)
    (hstep : ∀ c o, key (step c o) = key c) (hmk : ∀ k, key (mk k) = k) (ops : List (K × O)) :
    (ops.foldl (fun cs o => upsertC key mk (fun c => step c o.2) cs o.1) []).map key = dedupK (ops.map (·.1)) := by
  rw [dedupK, List.foldl_map]
  exact (List.foldl_hom (List.map key) fun cs o =>
    (keys_upsertC key mk _ (fun c => hstep c o.2) hmk cs o.1).symm).symm

theorem find_map_key (key : C → K) (f : K → C) (hf : ∀ k, key (f k) = k) (ks : List K) (k : K) :
    (ks.map f).find? (fun c => key c = k) = if k ∈ ks then some (f k) else none := by
  induction ks with
  | nil => simp
  | cons x xs ih =>
    simp only [List.map_cons, List.find?_cons, hf, List.mem_cons]
    by_cases e : x = k
    · subst e; simp
    · have e' : ¬ k = x := fun h => e h.symm
      simp [e, e', ih]

omit [DecidableEq K] in
theorem map_key_map (key : C → K) (f : K → C) (hf : ∀ k, key (f k) = k) (ks : List K) :
    (ks.map f).map key = ks := by
  rw [List.map_map, (funext hf : key ∘ f = id), List.map_id]

theorem foldl_upsertC_eq_spec {O : Type} (key : C → K) (mk : K → C) (step : C → O → C)
    (hstep : ∀ c o, key (step c o) = key c) (hmk : ∀ k, key (mk k) = k) (ops : List (K × O)) :
    ops.foldl (fun cs o => upsertC key mk (fun c => step c o.2) cs o.1) [] =
      (dedupK (ops.map (·.1))).map fun k =>
        ((ops.filter (fun o => o.1 = k)).map (·.2)).foldl step (mk k) := by
  have hp : pairs key (ops.foldl (fun cs o => upsertC key mk (fun c => step c o.2) cs o.1) []) =
      build mk (ops.map fun o => (o.1, fun c => step c o.2)) := by
    rw [build, List.foldl_map]
    exact (List.foldl_hom (pairs key) fun cs o => (pairs_upsertC key mk _ (fun c => hstep c o.2) hmk cs o.1).symm).symm
  have := congrArg (List.map (·.2)) hp
  rw [pairs_snd, build_eq_spec] at this
  rw [this]
  simp only [spec, val, List.map_map, List.filter_map, List.foldl_map, Function.comp_def, dedupK_eq]

theorem updLast_none_iff (key : C → K) (upd : C → C) (cs : List C) (k : K) :
    updLast key upd cs k = none ↔ k ∉ cs.map key := by
  induction cs with
  | nil => simp [updLast]
  | cons c cs ih =>
    rw [updLast, List.map_cons, List.mem_cons, not_or, ← ih]
    cases updLast key upd cs k with
    | some cs' => simp
    | none =>
      by_cases e : key c = k
      · simp [e]
      · simp [e, Ne.symm e]

theorem upsertLastC_cons (key : C → K) (mk : K → C) (upd : C → C) (c : C) (cs : List C) (k : K) :
    upsertLastC key mk upd (c :: cs) k =
      if key c = k ∧ k ∉ cs.map key then upd c :: cs else c :: upsertLastC key mk upd cs k := by
  simp only [← updLast_none_iff key upd, upsertLastC, updLast]
  cases updLast key upd cs k with
  | some cs' => simp
  | none =>
    simp only [and_true]
    split <;> rfl

/-- among children with distinct keys the last match is the first match (`Chain::add_atom` searches from the back) -/
theorem upsertLastC_eq_upsertC (key : C → K) (mk : K → C) (upd : C → C) (cs : List C) (k : K)
    (hnd : (cs.map key).Nodup) :
    upsertLastC key mk upd cs k = upsertC key mk upd cs k := by
  induction cs with
  | nil => rfl
  | cons c cs ih =>
    obtain ⟨hc, hcs⟩ := List.nodup_cons.mp hnd
    rw [upsertLastC_cons, upsertC, ih hcs]
    simp only [and_iff_left_of_imp fun e : key c = k => e ▸ hc]

theorem foldl_upsertLastC_eq {O : Type} (key : C → K) (mk : K → C) (step : C → O → C)
    (hstep : ∀ c o, key (step c o) = key c) (hmk : ∀ k, key (mk k) = k) (ops : List (K × O)) :
    ops.foldl (fun cs o => upsertLastC key mk (fun c => step c o.2) cs o.1) [] =
      ops.foldl (fun cs o => upsertC key mk (fun c => step c o.2) cs o.1) [] := by
  -- side by side the two folds are equal and their keys distinct
  refine (List.foldl_rel (r := fun a b : List C => a = b ∧ (b.map key).Nodup) (b := []) ⟨rfl, List.nodup_nil⟩
    fun o _ a b h => ?_).1
  exact ⟨by rw [h.1, upsertLastC_eq_upsertC _ _ _ _ _ h.2], nodup_upsertC key mk _ (fun c => hstep c o.2) hmk b o.1 h.2⟩

theorem upsertC_flatMap_perm {β : Type} (key : C → K) (mk : K → C) (upd : C → C) (h : C → List β)
    (extra : List β) (hu : ∀ c, (h (upd c)).Perm (h c ++ extra)) (hm : ∀ k, h (mk k) = [])
    (cs : List C) (k : K) : ((upsertC key mk upd cs k).flatMap h).Perm (cs.flatMap h ++ extra) := by
  induction cs with
  | nil =>
    have := hu (mk k)
    rw [hm k] at this
    simpa [upsertC] using this
  | cons c cs ih =>
    simp only [upsertC]
    split
    · exact perm_append_extra (hu c) _
    · rw [List.flatMap_cons, List.flatMap_cons, List.append_assoc]
      exact List.Perm.append_left _ ih

theorem upsertLastC_flatMap_perm {β : Type} (key : C → K) (mk : K → C) (upd : C → C) (h : C → List β)
    (extra : List β) (hu : ∀ c, (h (upd c)).Perm (h c ++ extra)) (hm : ∀ k, h (mk k) = [])
    (cs : List C) (k : K) : ((upsertLastC key mk upd cs k).flatMap h).Perm (cs.flatMap h ++ extra) := by
  induction cs with
  | nil => exact upsertC_flatMap_perm key mk upd h extra hu hm [] k
  | cons c cs ih =>
    rw [upsertLastC_cons]
    split
    · exact perm_append_extra (hu c) _
    · rw [List.flatMap_cons, List.flatMap_cons, List.append_assoc]
      exact List.Perm.append_left _ ih

end Keyed

theorem specConfs_keys (ops : List ROp) : (specConfs ops).map Conformer.cid = dedupK (ops.map (·.1)) :=
  map_key_map Conformer.cid _ (fun _ => rfl) _
theorem specResidues_keys (ops : List COp) : (specResidues ops).map Residue.rid = dedupK (ops.map (·.1)) :=
  map_key_map Residue.rid _ (fun _ => rfl) _
theorem specChains_keys (ops : List MOp) : (specChains ops).map Chain.id = dedupK (ops.map (·.1)) :=
  map_key_map Chain.id _ (fun _ => rfl) _

theorem cid_push (a : Atom) (c : Conformer) : (c.push a).cid = c.cid := rfl
theorem cid_empty (k : ConfId) : (Conformer.empty k).cid = k := rfl
theorem rid_addAtomN (o : ROp) (r : Residue) : (r.addAtomN o).rid = r.rid := rfl
theorem rid_empty (k : ResId) : (Residue.empty k).rid = k := rfl
theorem id_addAtomN (o : COp) (c : Chain) : (c.addAtomN o).id = c.id := rfl

theorem residue_addAtomN_perm (r : Residue) (op : ROp) : (r.addAtomN op).atoms.Perm (r.atoms ++ [op.2]) := by
  unfold Residue.addAtomN Residue.atoms
  exact upsertC_flatMap_perm Conformer.cid Conformer.empty (Conformer.push op.2) (·.atoms) [op.2]
    (fun c => by simp [Conformer.push]) (fun _ => rfl) r.conformers _

theorem chain_addAtomN_perm (c : Chain) (op : COp) : (c.addAtomN op).atoms.Perm (c.atoms ++ [op.2.2]) := by
  unfold Chain.addAtomN Chain.atoms
  exact upsertLastC_flatMap_perm Residue.rid Residue.empty (fun r => r.addAtomN op.2) (·.atoms) [op.2.2]
    (fun r => residue_addAtomN_perm r op.2) (fun _ => rfl) c.residues _

theorem model_addAtomN_perm (m : Model) (op : MOp) : (m.addAtomN op).atoms.Perm (m.atoms ++ [op.2.2.2]) := by
  unfold Model.addAtomN Model.atoms
  exact upsertC_flatMap_perm Chain.id Chain.empty (fun c => c.addAtomN op.2) (·.atoms) [op.2.2.2]
    (fun c => chain_addAtomN_perm c op.2) (fun _ => rfl) m.chains _

theorem normMOp_atom {o : RawMOp} {op : MOp} (h : normMOp o = some op) : op.2.2.2 = o.2.2.2 := by
  simp only [normMOp, normCOp, normROp, bind, Option.bind_eq_some_iff, Option.map_eq_some_iff, pure,
    Option.some.injEq] at h
  obtain ⟨_, _, _, ⟨_, _, _, ⟨_, _, rfl⟩, rfl⟩, rfl⟩ := h
  rfl

theorem foldl_push (l : List Atom) (c : Conformer) :
    l.foldl (fun c a => c.push a) c = { c with atoms := c.atoms ++ l } :=
  (List.foldl_hom (fun as => { c with atoms := as }) fun _ _ => rfl).trans
    (congrArg (fun as => { c with atoms := as }) (foldl_snoc l c.atoms))

theorem residue_fold (ops : List ROp) (r : Residue) :
    ops.foldl Residue.addAtomN r =
      { r with conformers := ops.foldl (fun cs o =>
          upsertC Conformer.cid Conformer.empty (fun c => c.push o.2) cs o.1) r.conformers } :=
  List.foldl_hom (fun cs => { r with conformers := cs }) fun _ _ => rfl

theorem residue_build (ops : List ROp) (k : ResId) :
    ops.foldl Residue.addAtomN (Residue.empty k) =
      { serial := k.1, icode := k.2, conformers := specConfs ops } := by
  rw [residue_fold]
  refine congrArg (Residue.mk k.1 k.2) ((foldl_upsertC_eq_spec Conformer.cid Conformer.empty
    (fun c a => c.push a) (fun _ _ => rfl) cid_empty ops).trans ?_)
  simp only [foldl_push, Conformer.empty, List.nil_append]
  rfl

theorem chain_fold (ops : List COp) (c : Chain) :
    ops.foldl Chain.addAtomN c =
      { c with residues := ops.foldl (fun rs o =>
          upsertLastC Residue.rid Residue.empty (fun r => r.addAtomN o.2) rs o.1) c.residues } :=
  List.foldl_hom (fun rs => { c with residues := rs }) fun _ _ => rfl

theorem chain_build (ops : List COp) (k : String) :
    ops.foldl Chain.addAtomN (Chain.empty k) = { id := k, residues := specResidues ops } := by
  rw [chain_fold]
  refine congrArg (Chain.mk k) ((foldl_upsertLastC_eq Residue.rid Residue.empty Residue.addAtomN
    (fun _ _ => rfl) rid_empty ops).trans ((foldl_upsertC_eq_spec Residue.rid Residue.empty Residue.addAtomN
    (fun _ _ => rfl) rid_empty ops).trans ?_))
  simp only [residue_build]
  rfl

theorem model_fold (ops : List MOp) (m : Model) :
    ops.foldl Model.addAtomN m =
      { m with chains := ops.foldl (fun cs o =>
          upsertC Chain.id Chain.empty (fun c => c.addAtomN o.2) cs o.1) m.chains } :=
  List.foldl_hom (fun cs => { m with chains := cs }) fun _ _ => rfl

theorem model_build (ops : List MOp) (n : Nat) :
    ops.foldl Model.addAtomN { serial := n, chains := [] } = { serial := n, chains := specChains ops } := by
  rw [model_fold]
  refine congrArg (Model.mk n) ((foldl_upsertC_eq_spec Chain.id Chain.empty Chain.addAtomN
    (fun _ _ => rfl) (fun _ => rfl) ops).trans ?_)
  simp only [chain_build]
  rfl

end PdbModel
