/-
Generic grouping lemma: a left fold of "first child with this key gets the update, otherwise append a
fresh child" equals the declarative specification (keys in order of first appearance, each child built
from exactly the operations carrying its key, in order).
-/
import PdbModel.Lemmas.List
namespace PdbModel.Grp
variable {K V : Type} [DecidableEq K]

/-- first match gets `g`, otherwise append `(k, g (d k))` — the loop in `Model::add_atom` etc. -/
def upsert (d : K → V) : List (K × V) → K → (V → V) → List (K × V)
  | [], k, g => [(k, g (d k))]
  | (k', v) :: rest, k, g => if k' = k then (k', g v) :: rest else (k', v) :: upsert d rest k g

def build (d : K → V) (ops : List (K × (V → V))) : List (K × V) :=
  ops.foldl (fun m op => upsert d m op.1 op.2) []

def dedup (l : List K) : List K :=
  l.foldl (fun acc x => if x ∈ acc then acc else acc ++ [x]) []

def val (d : K → V) (ops : List (K × (V → V))) (k : K) : V :=
  (ops.filter (fun op => op.1 = k)).foldl (fun v op => op.2 v) (d k)

def spec (d : K → V) (ops : List (K × (V → V))) : List (K × V) :=
  (dedup (ops.map (·.1))).map fun k => (k, val d ops k)

theorem upsert_keys (d : K → V) (m : List (K × V)) (k : K) (g : V → V) :
    (upsert d m k g).map (·.1) = if k ∈ m.map (·.1) then m.map (·.1) else m.map (·.1) ++ [k] := by
  induction m with
  | nil => rfl
  | cons p rest ih =>
    rw [upsert]
    split
    · next h => rw [List.map_cons, List.map_cons, if_pos (h ▸ List.mem_cons_self ..)]
    · next h =>
      rw [List.map_cons, ih, List.map_cons, apply_ite (List.cons p.1)]
      simp only [List.mem_cons, Ne.symm h, false_or, List.cons_append]

theorem mem_dedup (l : List K) (x : K) : x ∈ dedup l ↔ x ∈ l := by
  unfold dedup
  rw [foldl_iff_or (P := (x ∈ ·)) (Q := (· = x))]
  · simp
  · intro m a
    split
    · next h => exact ⟨Or.inl, fun h' => h'.elim id fun e => e ▸ h⟩
    · rw [List.mem_append, List.mem_singleton, eq_comm]

theorem dedup_snoc (l : List K) (x : K) :
    dedup (l ++ [x]) = if x ∈ dedup l then dedup l else dedup l ++ [x] := by
  unfold dedup; rw [List.foldl_append]; rfl

theorem val_snoc (d : K → V) (ops : List (K × (V → V))) (op : K × (V → V)) (k : K) :
    val d (ops ++ [op]) k = if op.1 = k then op.2 (val d ops k) else val d ops k := by
  unfold val
  by_cases h : op.1 = k <;> simp [List.filter_append, h, List.foldl_append]

/-- `upsert` on the list a function `f` gives on distinct keys `ks`: `g` is applied at `k`, which is appended first when it
is new (`f k` is then the default `d k`, `hd`) -/
theorem upsert_map (d : K → V) (ks : List K) (f : K → V) (k : K) (g : V → V) (hnd : ks.Nodup)
    (hd : k ∉ ks → f k = d k) :
    upsert d (ks.map fun x => (x, f x)) k g =
      (if k ∈ ks then ks else ks ++ [k]).map fun x => (x, if k = x then g (f x) else f x) := by
  induction ks with
  | nil => simp [upsert, hd]
  | cons y ys ih =>
    obtain ⟨hy, hys⟩ := List.nodup_cons.mp hnd
    rw [List.map_cons, upsert]
    by_cases h : y = k
    · subst h
      rw [if_pos rfl, if_pos (List.mem_cons_self ..), List.map_cons, if_pos rfl]
      congr 1
      exact List.map_congr_left fun x hx => by rw [if_neg fun e : y = x => hy (e ▸ hx)]
    · have h' : k ≠ y := Ne.symm h
      rw [if_neg h, ih hys fun hk => hd (List.not_mem_cons_of_ne_of_not_mem h' hk)]
      simp only [List.mem_cons, h', false_or]
      split <;> simp only [List.cons_append, List.map_cons, if_neg h']

theorem snoc_induction {α : Type} {P : List α → Prop} (nil : P [])
    (snoc : ∀ xs x, P xs → P (xs ++ [x])) : ∀ l, P l := by
  intro l
  have : ∀ r : List α, P r.reverse := by
    intro r; induction r with
    | nil => exact nil
    | cons x xs ih => simpa using snoc _ x ih
  simpa using this l.reverse

theorem nodup_dedup (l : List K) : (dedup l).Nodup := by
  induction l using snoc_induction with
  | nil => exact List.nodup_nil
  | snoc xs x ih => rw [dedup_snoc]; exact nodup_snoc_if _ x ih

theorem val_of_not_mem (d : K → V) (ops : List (K × (V → V))) (k : K) (h : k ∉ ops.map (·.1)) :
    val d ops k = d k := by
  unfold val
  rw [List.filter_eq_nil_iff.mpr fun a ha he => h (List.mem_map.mpr ⟨a, ha, of_decide_eq_true he⟩)]
  rfl

theorem build_eq_spec (d : K → V) (ops : List (K × (V → V))) : build d ops = spec d ops := by
  induction ops using snoc_induction with
  | nil => rfl
  | snoc xs op ih =>
    have hb : build d (xs ++ [op]) = upsert d (build d xs) op.1 op.2 := by
      simp [build, List.foldl_append]
    rw [hb, ih]
    unfold spec
    rw [upsert_map d _ _ _ _ (nodup_dedup _) fun h => val_of_not_mem d xs _ (mt (mem_dedup ..).mpr h),
      List.map_append, List.map_singleton, dedup_snoc]
    exact List.map_congr_left fun x _ => by rw [val_snoc]

end PdbModel.Grp
