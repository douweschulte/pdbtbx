/-
`trim` (Rust's `str::trim` on the character list): a text without a blank at either end is left alone, whatever
blanks stand around it; `trim` produces such a text, so it is idempotent; and it keeps every character property
that holds for all characters of the text. Then what `prepare_identifier` accepts (`prepareIdentifier_eq_some`).
-/
import PdbModel.Basic
namespace PdbModel

theorem trimStart_eq_self {s : List Char} (h : ∀ c, s.head? = some c → isRustWs c = false) : trimStart s = s := by
  cases s with
  | nil => rfl
  | cons a r => exact List.dropWhile_cons_of_neg (by simp [h a rfl])

theorem trimEnd_eq_self {s : List Char} (h : ∀ c, s.getLast? = some c → isRustWs c = false) : trimEnd s = s := by
  have : trimStart s.reverse = s.reverse := trimStart_eq_self (by rwa [List.head?_reverse])
  unfold trimEnd
  rw [show s.reverse.dropWhile isRustWs = s.reverse from this, List.reverse_reverse]

theorem trim_eq_self {s : List Char} (hh : ∀ c, s.head? = some c → isRustWs c = false)
    (hl : ∀ c, s.getLast? = some c → isRustWs c = false) : trim s = s := by
  unfold trim
  rw [trimStart_eq_self hh, trimEnd_eq_self hl]

theorem blanks_ws (k : Nat) : ∀ c ∈ List.replicate k ' ', isRustWs c = true := by
  intro c hc
  rw [(List.mem_replicate.mp hc).2]
  rfl

theorem trim_padded {l s r : List Char} (hl : ∀ c ∈ l, isRustWs c = true) (hr : ∀ c ∈ r, isRustWs c = true)
    (hh : ∀ c, s.head? = some c → isRustWs c = false) (hla : ∀ c, s.getLast? = some c → isRustWs c = false) :
    trim (l ++ s ++ r) = s := by
  have hs : trimStart (l ++ s ++ r) = trimStart (s ++ r) := by
    rw [List.append_assoc]
    exact List.dropWhile_append_of_pos hl
  have he : trimEnd (s ++ r) = trimEnd s := by
    unfold trimEnd
    rw [List.reverse_append, List.dropWhile_append_of_pos (by simpa using hr)]
  cases s with
  | nil =>
    -- nothing but blanks
    have : trimStart (r ++ []) = trimStart [] := List.dropWhile_append_of_pos hr
    unfold trim
    rw [hs, List.nil_append, ← List.append_nil r, this]
    rfl
  | cons a t =>
    unfold trim
    rw [hs, show trimStart (a :: t ++ r) = a :: t ++ r from trimStart_eq_self (by simpa using hh), he, trimEnd_eq_self hla]

theorem trim_padded_of_all {l s r : List Char} (hl : ∀ c ∈ l, isRustWs c = true) (hr : ∀ c ∈ r, isRustWs c = true)
    (hs : ∀ c ∈ s, isRustWs c = false) : trim (l ++ s ++ r) = s :=
  trim_padded hl hr (fun c hc => hs c (List.mem_of_mem_head? hc)) (fun c hc => hs c (List.mem_of_mem_getLast? hc))

theorem trimEnd_append (m : List Char) : ∃ suf, trimEnd m ++ suf = m ∧ ∀ c ∈ suf, isRustWs c = true := by
  unfold trimEnd
  refine ⟨(m.reverse.takeWhile isRustWs).reverse, ?_, fun c hc => ?_⟩
  · rw [← List.reverse_append, List.takeWhile_append_dropWhile, List.reverse_reverse]
  · exact List.all_eq_true.mp List.all_takeWhile c (List.mem_reverse.mp hc)

theorem trimEnd_prefix (m : List Char) : trimEnd m <+: m := (trimEnd_append m).imp fun _ h => h.1

theorem trim_ne_nil {c : Char} (r : List Char) (h : isRustWs c = false) : trim (c :: r) ≠ [] := by
  unfold trim
  rw [trimStart_eq_self (fun x hx => by cases hx; exact h)]
  obtain ⟨suf, hs, hws⟩ := trimEnd_append (c :: r)
  intro he
  -- otherwise the whole text, `c` included, would be blanks
  rw [he, List.nil_append] at hs
  have := hws c (hs ▸ List.mem_cons_self ..)
  rw [h] at this
  cases this

theorem head?_dropWhile_not_ws (l : List Char) : ∀ c, (l.dropWhile isRustWs).head? = some c → isRustWs c = false := by
  intro c hc
  have := List.head?_dropWhile_not isRustWs l
  rwa [hc] at this

theorem trim_last (l : List Char) : ∀ c, (trim l).getLast? = some c → isRustWs c = false := by
  unfold trim trimEnd
  rw [List.getLast?_reverse]
  exact head?_dropWhile_not_ws _

theorem trim_head (l : List Char) : ∀ c, (trim l).head? = some c → isRustWs c = false := by
  intro c hc
  -- `trim l` is a prefix of `trimStart l`, which starts with a non-blank
  obtain ⟨suf, hsuf⟩ := trimEnd_prefix (trimStart l)
  apply head?_dropWhile_not_ws l c
  rw [show l.dropWhile isRustWs = trim l ++ suf from hsuf.symm, List.head?_append, hc]
  rfl

theorem trim_idem (l : List Char) : trim (trim l) = trim l := trim_eq_self (trim_head l) (trim_last l)

theorem trim_sublist (l : List Char) : List.Sublist (trim l) l :=
  (trimEnd_prefix (trimStart l)).sublist.trans (List.dropWhile_sublist _)

theorem validText_trim (l : List Char) (h : validText l = true) : validText (trim l) = true := by
  unfold validText at h ⊢
  rw [List.all_eq_true] at h ⊢
  intro c hc
  exact h c ((trim_sublist l).subset hc)

theorem prepareIdentifier_eq_some {l t : List Char} :
    prepareIdentifier l = some t ↔ validText l = true ∧ trim l ≠ [] ∧ trim l = t := by
  simp [prepareIdentifier, and_assoc]

theorem prepareIdentifier_trim (l t : List Char) (h : prepareIdentifier l = some t) : prepareIdentifier t = some t := by
  obtain ⟨hv, hne, rfl⟩ := prepareIdentifier_eq_some.mp h
  exact prepareIdentifier_eq_some.mpr ⟨validText_trim l hv, by rwa [trim_idem], trim_idem l⟩

end PdbModel
