/-
The PDB reader, seen through the lemmas the property files use instead of unfolding it.  The insertion-ordered maps
(`assocUpsert`: keys, what the values hold); what `flushModel` and a record (`stepItem`) do to the components of the
parser state and to the atoms read so far (`PState.allAtoms`); a line as lexing followed by `stepLexed`, with the
diagnostics a log that nothing reads (`noErr`, `stepLine_proj`); the fold over the numbered lines (`parseLines`,
`parseLines_induction`, `parseLines_component`); and `readPdbCore` as that fold followed by a post-processing
`finishPdb` that never looks at the diagnostics collected so far (`readPdbCore_eq`), with the gate of `readPdb`.
-/
import PdbModel.PdbRead
import PdbModel.Lemmas.List
namespace PdbModel

theorem assocUpsert_flatMap_perm {K V β : Type} [BEq K] (h : V → List β) (extra : List β) (g : Option V → V)
    (hs : ∀ v, (h (g (some v))).Perm (h v ++ extra)) (hn : (h (g none)).Perm extra)
    (l : List (K × V)) (k : K) :
    ((assocUpsert l k g).flatMap (fun p => h p.2)).Perm (l.flatMap (fun p => h p.2) ++ extra) := by
  induction l with
  | nil => simpa [assocUpsert] using hn
  | cons p r ih =>
    simp only [assocUpsert]
    split
    · exact perm_append_extra (hs p.2) _
    · rw [List.flatMap_cons, List.flatMap_cons, List.append_assoc]
      exact List.Perm.append_left _ ih

theorem assocUpsert_forall {K V : Type} [BEq K] (P : V → Prop) (g : Option V → V)
    (hs : ∀ v, P v → P (g (some v))) (hn : P (g none)) (l : List (K × V)) (k : K) (h : ∀ c ∈ l, P c.2) :
    ∀ c ∈ assocUpsert l k g, P c.2 := by
  induction l with
  | nil => exact List.forall_mem_singleton.mpr hn
  | cons p r ih =>
    rw [List.forall_mem_cons] at h
    unfold assocUpsert
    split
    · exact List.forall_mem_cons.mpr ⟨hs _ h.1, h.2⟩
    · exact List.forall_mem_cons.mpr ⟨h.1, ih h.2⟩

section
variable {K V : Type} [BEq K] [LawfulBEq K]

theorem keys_assocUpsert (l : List (K × V)) (k : K) (g : Option V → V) :
    (assocUpsert l k g).map Prod.fst =
      if k ∈ l.map Prod.fst then l.map Prod.fst else l.map Prod.fst ++ [k] := by
  induction l with
  | nil => rfl
  | cons p r ih =>
    obtain ⟨a, v⟩ := p
    unfold assocUpsert
    by_cases h : (a == k) = true
    · obtain rfl := eq_of_beq h; simp
    · have h : ¬ a = k := fun e => h (beq_iff_eq.mpr e)
      simp only [beq_iff_eq, h, if_false, List.map_cons, ih, List.mem_cons, Ne.symm h, false_or]
      split <;> rfl

theorem keys_foldl_assocUpsert {Op : Type} (key : Op → K) (g : Op → Option V → V) (ops : List Op)
    (l : List (K × V)) :
    (ops.foldl (fun m o => assocUpsert m (key o) (g o)) l).map Prod.fst =
      ops.foldl (fun acc o => if key o ∈ acc then acc else acc ++ [key o]) (l.map Prod.fst) :=
  (List.foldl_hom (List.map Prod.fst) fun m o => (keys_assocUpsert m (key o) (g o)).symm).symm

end

theorem flushModel_eq (s : PState) :
    flushModel s = { s with
      models := s.models ++ (if s.cur.isEmpty then [] else [{ serial := s.curNumber, chains := chainsOfMap s.cur }]),
      cur := [] } := by
  unfold flushModel
  split
  · next h => rw [List.append_nil, ← List.isEmpty_iff.mp h]
  · rfl

theorem flushModel_models_prefix (s : PState) : s.models <+: (flushModel s).models := by
  rw [flushModel_eq]
  exact List.prefix_append ..

theorem flushModel_of_empty (s : PState) (h : s.cur.isEmpty = true) : flushModel s = s := by
  unfold flushModel
  rw [if_pos h]

/-- all atoms read so far: finished models first, then the model being read -/
def PState.allAtoms (s : PState) : List Atom :=
  s.models.flatMap (·.atoms) ++ (chainsOfMap s.cur).flatMap (·.atoms)

theorem allAtoms_flush (s : PState) : (flushModel s).allAtoms = s.allAtoms := by
  rw [flushModel_eq]
  unfold PState.allAtoms
  split
  · next h => rw [List.append_nil, List.isEmpty_iff.mp h]
  · simp only [List.flatMap_append, List.flatMap_cons, List.flatMap_nil, List.append_nil, Model.atoms, chainsOfMap,
      List.map_nil]

def mapAtoms (m : ChainMap) : List Atom := (chainsOfMap m).flatMap (·.atoms)

theorem mapAtoms_eq (m : ChainMap) : mapAtoms m = m.flatMap (fun p => p.2.flatMap (fun q => q.2.atoms)) := by
  unfold mapAtoms chainsOfMap
  rw [List.flatMap_map]
  congr 1
  funext p
  simp only [Chain.atoms, List.flatMap_map]

theorem upsertChain_atoms (m : ChainMap) (cid : String) (key : ResId) (a : Atom) (g : Option Residue → Residue)
    (hs : ∀ r, (g (some r)).atoms.Perm (r.atoms ++ [a])) (hn : (g none).atoms = [a]) :
    (mapAtoms (upsertChain m cid key g)).Perm (mapAtoms m ++ [a]) := by
  have inner : ∀ rs : List (ResId × Residue),
      ((assocUpsert rs key g).flatMap (fun q => q.2.atoms)).Perm (rs.flatMap (fun q => q.2.atoms) ++ [a]) :=
    fun rs => assocUpsert_flatMap_perm (·.atoms) [a] g hs (by rw [hn]) rs key
  rw [mapAtoms_eq, mapAtoms_eq]
  exact assocUpsert_flatMap_perm (fun rs : List (ResId × Residue) => rs.flatMap (fun q => q.2.atoms)) [a]
    (fun rs? => assocUpsert (rs?.getD []) key g) inner (inner []) m cid

theorem stepItem_atom (o : ReadOpts) (s : PState) (ctx : Nat × List Char)
    (het : Bool) (serial : Nat) (name : List Char) (alt : Option (List Char)) (resName chain : List Char)
    (resSeq : Int) (icode : Option (List Char)) (x y z occ b : Flt) (element : List Char) (charge : Int) :
    let s1 : PState := { s with atomAdd := wrapAddN 99999 s.lastAtom s.atomAdd serial,
                                resAdd := wrapAddI 9999 s.lastRes s.resAdd resSeq }
    let r := stepItem o s ctx (.atom het serial name alt resName chain resSeq icode x y z occ b element charge)
    (o.discardHydrogens = true ∧ element = ['H'] ∧ r = (s, [])) ∨
    r = (s1, [(.invalidating, "Invalid identifier")]) ∨
    r = ({ s1 with nextId := s.nextId + 1 }, [(.invalidating, "Invalid atom")]) ∨
    ∃ a ex cid key fresh,
      atomNew het (serial + s1.atomAdd) (toString s.nextId).toList name x y z occ b element charge = some (a, ex) ∧
      fresh.atoms = [a] ∧
      r = ({ s1 with nextId := s.nextId + 1, lastRes := resSeq, lastAtom := serial, exact := s.exact && ex,
                     cur := upsertChain s.cur cid key fun
                       | some r => r.addAtomRaw a (String.ofList resName) (alt.map String.ofList)
                       | none => fresh }, []) := by
  intro s1 r
  have hr : stepItem o s ctx (.atom het serial name alt resName chain resSeq icode x y z occ b element charge) = r := rfl
  simp only [stepItem] at hr
  generalize (if (trim chain).isEmpty = true then letterOf s.chainLetter else String.ofList chain) = cid at hr
  split at hr
  · next h =>
    simp only [Bool.and_eq_true, beq_iff_eq] at h
    exact Or.inl ⟨h.1, h.2, hr.symm⟩
  · split at hr
    · exact Or.inr (Or.inl hr.symm)
    · split at hr
      · exact Or.inr (Or.inr (Or.inl hr.symm))
      · next a ex ha => exact Or.inr (Or.inr (Or.inr ⟨a, ex, _, _, _, ha, by simp [Residue.atoms], hr.symm⟩))

theorem stepItem_model (o : ReadOpts) (s : PState) (ctx : Nat × List Char) (n : Nat) :
    stepItem o s ctx (.model n) =
      (if (!s.cur.isEmpty && o.onlyFirstModel) = true then { flushModel s with stopped := true }
       else { flushModel s with curNumber := n }, []) := by
  simp only [stepItem]
  cases h : s.cur.isEmpty
  · cases o.onlyFirstModel <;> rfl
  · rw [flushModel_of_empty s h]
    rfl

/-- the footprint of each record: `stepItem` changes at most the named components of the parser state (never the
diagnostics collected so far: those of the record are returned beside the state).  The new values are quoted from
the result `t` itself, so that after rewriting with this equation every other projection of the result reduces to
the projection of `s` by `rfl`, whatever branches the record's code has. -/
theorem stepItem_footprint (o : ReadOpts) (s : PState) (ctx : Nat × List Char) (item : LexItem) :
    (stepItem o s ctx item).1 =
      let t := (stepItem o s ctx item).1
      match item with
      | .atom .. => { s with cur := t.cur, lastRes := t.lastRes, resAdd := t.resAdd, lastAtom := t.lastAtom,
                             atomAdd := t.atomAdd, nextId := t.nextId, exact := t.exact }
      | .anisou .. => { s with cur := t.cur }
      | .model _ => { s with models := t.models, cur := t.cur, curNumber := t.curNumber, stopped := t.stopped }
      | .master .. => { s with models := t.models, cur := t.cur }
      | .header _ => { s with info := { s.info with identifier := t.info.identifier } }
      | .remark .. => { s with info := { s.info with remarks := t.info.remarks } }
      | .crystal .. => { s with info := { s.info with cell := t.info.cell, symmetry := t.info.symmetry } }
      | .scale .. => { s with scale := t.scale }
      | .origx .. => { s with origx := t.origx }
      | .mtrix .. => { s with mtrix := t.mtrix }
      | .seqres .. => { s with seqres := t.seqres, seqresLines := t.seqresLines }
      | .dbref .. | .dbref1 .. | .dbref2 .. | .seqadv .. => { s with dbrefs := t.dbrefs }
      | .modres .. => { s with modifications := t.modifications }
      | .ssbond .. => { s with bonds := t.bonds }
      | .ter => { s with chainLetter := t.chainLetter }
      | .endModel | .endd | .empty => s := by
  cases item
  case atom het serial name alt resName chain resSeq icode x y z occ b element charge =>
    rcases stepItem_atom o s ctx het serial name alt resName chain resSeq icode x y z occ b element charge with
      ⟨_, _, h⟩ | h | h | ⟨_, _, _, _, _, _, _, h⟩ <;> rw [h]
  case model n =>
    rw [stepItem_model, flushModel_eq]
    split <;> rfl
  case master =>
    show flushModel s = { s with models := (flushModel s).models, cur := (flushModel s).cur }
    rw [flushModel_eq]
  case anisou | remark | mtrix | crystal | dbref2 | seqadv =>
    simp only [stepItem]
    split <;> rfl
  all_goals rfl

theorem stepItem_stopped (o : ReadOpts) (ho : o.onlyFirstModel = false) (s : PState) (ctx : Nat × List Char)
    (item : LexItem) : (stepItem o s ctx item).1.stopped = s.stopped := by
  rw [stepItem_footprint]
  cases item
  case model n => rw [stepItem_model, ho, Bool.and_false, if_neg Bool.false_ne_true, flushModel_eq]
  all_goals rfl

/-- the state as `stepLine` hands it to `stepItem`: with an empty log, to which the line's diagnostics are added afterwards -/
def PState.noErr (s : PState) : PState := { s with errors := [] }

/-- what `stepLine` does with the answer of the lexer (`stepLine_eq`) -/
def stepLexed (o : ReadOpts) (s : PState) (ln : Nat) (line : List Char) : Except PDiag (LexItem × List PDiag) → PState
  | .error e => { s with errors := s.errors ++ [e] }
  | .ok p =>
    { (stepItem o s.noErr (ln, line) p.1).1 with
      errors := s.errors ++ p.2 ++ attachLine ln line (stepItem o s.noErr (ln, line) p.1).2 }

theorem stepLine_eq (o : ReadOpts) (s : PState) (ln : Nat) (line : List Char) :
    stepLine o s ln line =
      if s.stopped = true then s else stepLexed o s ln line (lexLine line ln o.level o.onlyAtomicCoords) := by
  unfold stepLine
  split
  · rfl
  · cases lexLine line ln o.level o.onlyAtomicCoords with
    | error e => rfl
    | ok p => rfl

theorem stepLine_proj {α} (π : PState → α) (hπ : ∀ s es, π { s with errors := es } = π s)
    (o : ReadOpts) (s : PState) (ln : Nat) (line : List Char) :
    π (stepLine o s ln line) =
      if s.stopped = true then π s else
      match lexLine line ln o.level o.onlyAtomicCoords with
      | .error _ => π s
      | .ok p => π (stepItem o s.noErr (ln, line) p.1).1 := by
  rw [stepLine_eq, apply_ite π]
  cases lexLine line ln o.level o.onlyAtomicCoords with
  | error e => exact congrArg _ (hπ s _)
  | ok p => exact congrArg _ (hπ _ _)

theorem stepLine_component {α} (π : PState → α) (hπ : ∀ s es, π { s with errors := es } = π s)
    (o : ReadOpts) (s : PState) (ln : Nat) (line : List Char) (hs : s.stopped = false) :
    π (stepLine o s ln line) =
      match lexLine line ln o.level o.onlyAtomicCoords with
      | .error _ => π s
      | .ok p => π (stepItem o s.noErr (ln, line) p.1).1 := by
  rw [stepLine_proj π hπ, if_neg (hs ▸ Bool.false_ne_true)]

theorem stepLine_noErr (o : ReadOpts) (s : PState) (ln : Nat) (line : List Char) :
    (stepLine o s ln line).noErr = (stepLine o s.noErr ln line).noErr := by
  rw [stepLine_proj PState.noErr fun _ _ => rfl, stepLine_proj PState.noErr fun _ _ => rfl]
  rfl

theorem stepLine_stopped (o : ReadOpts) (ho : o.onlyFirstModel = false) (s : PState) (ln : Nat) (line : List Char)
    (hs : s.stopped = false) : (stepLine o s ln line).stopped = false := by
  rw [stepLine_component (·.stopped) (fun _ _ => rfl) o s ln line hs]
  split
  · exact hs
  · rw [stepItem_stopped o ho]; exact hs

theorem stepLine_errors (o : ReadOpts) (s : PState) (ln : Nat) (line : List Char) :
    ∀ d ∈ (stepLine o s ln line).errors, d ∈ s.errors ∨ d.quoted = [(ln, line)] := by
  have hatt (ds) : ∀ d ∈ attachLine ln line ds, d.quoted = [(ln, line)] := fun d hd => by
    obtain ⟨x, _, rfl⟩ := List.mem_map.mp hd
    rfl
  rw [stepLine_eq]
  split
  · exact fun _ => Or.inl
  · unfold lexLine
    cases lexLineRaw line ln o.level o.onlyAtomicCoords with
    | error e => exact mem_snoc_or rfl
    | ok p =>
      intro d hd
      rcases List.mem_append.mp hd with hd | hd
      · exact (List.mem_append.mp hd).imp_right (hatt _ d)
      · exact Or.inr (hatt _ d hd)

abbrev parseLines (o : ReadOpts) (lines : List (List Char)) : PState :=
  ((List.range lines.length).zip lines).foldl (fun s (il : Nat × List Char) => stepLine o s (il.1 + 1) il.2) {}

theorem mem_zip_range {α} {l : List α} {i : Nat} {x : α} (h : (i, x) ∈ (List.range l.length).zip l) :
    l[i]? = some x := by
  obtain ⟨k, hk⟩ := List.mem_iff_getElem?.mp h
  obtain ⟨h1, h2⟩ := List.getElem?_zip_eq_some.mp hk
  obtain ⟨_, rfl⟩ := List.getElem?_eq_some_iff.mp h1
  rw [List.getElem_range]
  exact h2

theorem parseLines_induction {motive : PState → Prop} (o : ReadOpts) (lines : List (List Char)) (h0 : motive {})
    (step : ∀ s i line, lines[i]? = some line → motive s → motive (stepLine o s (i + 1) line)) :
    motive (parseLines o lines) :=
  List.foldlRecOn _ _ h0 fun s hs il hil => step s il.1 il.2 (mem_zip_range hil) hs

/-- **a component of the parser state that every line updates on its own** — by `g`, with what `rec` reads off
the line — is, after the whole text, the fold of `g` over what the lines state (reading without only-first-model,
so that every line is read) -/
theorem parseLines_component {α β : Type} (o : ReadOpts) (ho : o.onlyFirstModel = false) (π : PState → α)
    (rec : Nat × List Char → Option β) (g : α → β → α)
    (hline : ∀ s il, s.stopped = false → π (stepLine o s (il.1 + 1) il.2) = (rec il).elim (π s) (g (π s)))
    (lines : List (List Char)) :
    π (parseLines o lines) = (((List.range lines.length).zip lines).filterMap rec).foldl g (π {}) := by
  rw [List.foldl_filterMap]
  refine (List.foldl_rel (r := fun s a => s.stopped = false ∧ π s = a) ⟨rfl, rfl⟩ ?_).2
  intro il _ s a ⟨h1, h2⟩
  refine ⟨stepLine_stopped o ho s _ _ h1, ?_⟩
  rw [hline s il h1, h2]
  cases rec il <;> rfl

/-- the database references by position of their chain, and the diagnostics for those left unfinished -/
def resolveDbrefs (pdb : PDB) (dbrefs : List (String × DbRef × Bool)) : List (Nat × DbRef) × List PDiag :=
  dbrefs.foldl (fun (acc : List (Nat × DbRef) × List PDiag) (d : String × DbRef × Bool) =>
    if !d.2.2 then (acc.1, acc.2 ++ [PDiag.mk .strictWarning "Solitary DBREF1 definition" []])
    else match pdb.chains.findIdx? (·.id == d.1) with
      | some gi => ((acc.1.filter (·.1 != gi)) ++ [(gi, d.2.1)], acc.2)
      | none => acc) ([], [])

/-- a SCALE / ORIGX matrix is there when all three rows are; given in part it is reported -/
def rowsResult (short : String) (rows : List (Option (List Flt))) : Option (List Flt) × List PDiag :=
  match rowsFull rows with
  | some m => (some m, [])
  | none => (none, if rowsPartly rows then [PDiag.mk .strictWarning short []] else [])

def mtrixResult (ms : List (Nat × List (Option (List Flt)) × Bool)) : List (Nat × List Flt × Bool) × List PDiag :=
  ms.foldl (fun (acc : List (Nat × List Flt × Bool) × List PDiag) (m : Nat × List (Option (List Flt)) × Bool) =>
    match rowsFull m.2.1 with
    | some v => (acc.1 ++ [(m.1, v, m.2.2)], acc.2)
    | none => (acc.1, acc.2 ++ [PDiag.mk .strictWarning "Invalid MATRIX definition" []])) ([], [])

/-- what `readPdbCore` makes of the parser state after the last line: the structure, the diagnostics that join the
parser's own before the over-long-REMARK warnings are merged, and those of the checks that come after.  The
parser's own diagnostics take no part in it. -/
def finishPdb (s : PState) : PdbFile × List PDiag × List PDiag :=
  let s := flushModel s
  let db := resolveDbrefs { models := s.models } s.dbrefs
  let scale := rowsResult "Invalid SCALE definition" s.scale
  let origx := rowsResult "Invalid ORIGX definition" s.origx
  let mtrix := mtrixResult s.mtrix
  let (pdb, exR) := reshufflePDB { models := s.models }
  let (pdb, eS) := validateSeqres pdb db.1 s.seqres s.seqresLines
  let (pdb, e5) := addModifications pdb s.modifications
  let (bonds, e6) := addBonds pdb s.bonds
  ({ pdb := pdb, exact := s.exact && exR,
     info := { s.info with scale := scale.1, origx := origx.1, mtrix := mtrix.1, dbrefs := db.1, bonds := bonds } },
   db.2 ++ scale.2 ++ origx.2 ++ mtrix.2,
   eS ++ e5 ++ e6 ++ (validate pdb).map fun d => PDiag.mk d.1 d.2 [])

theorem readPdbCore_eq (o : ReadOpts) (lines : List (List Char)) :
    readPdbCore o lines =
      ((finishPdb (parseLines o lines)).1,
       mergeRemarkWarnings ((parseLines o lines).errors ++ (finishPdb (parseLines o lines)).2.1) ++
         (finishPdb (parseLines o lines)).2.2) := by
  unfold readPdbCore finishPdb resolveDbrefs rowsResult mtrixResult parseLines
  generalize List.foldl _ _ _ = s
  have he : (flushModel s).errors = s.errors := by rw [flushModel_eq]
  simp only [List.append_assoc, he]
  rfl

theorem finishPdb_noErr (s : PState) : finishPdb s.noErr = finishPdb s := by
  unfold finishPdb
  simp only [flushModel_eq]
  rfl

theorem readPdbCore_file (o o' : ReadOpts) (lines lines' : List (List Char))
    (h : (parseLines o lines).noErr = (parseLines o' lines').noErr) :
    (readPdbCore o lines).1 = (readPdbCore o' lines').1 := by
  rw [readPdbCore_eq, readPdbCore_eq, ← finishPdb_noErr, h, finishPdb_noErr]

theorem rowsResult_fst (short : String) (rows : List (Option (List Flt))) : (rowsResult short rows).1 = rowsFull rows := by
  unfold rowsResult
  cases rowsFull rows <;> rfl

theorem mtrixResult_fst (ms : List (Nat × List (Option (List Flt)) × Bool)) :
    (mtrixResult ms).1 = ms.filterMap fun m => (rowsFull m.2.1).map fun v => (m.1, v, m.2.2) := by
  refine Eq.trans ?_ ((foldl_snoc _ []).trans (List.nil_append _))
  rw [List.foldl_filterMap]
  exact (List.foldl_hom Prod.fst fun acc m => by cases rowsFull m.2.1 <;> rfl).symm

theorem finishPdb_info (s : PState) : ∃ p : PDB, (finishPdb s).1.info =
    { s.info with scale := rowsFull s.scale, origx := rowsFull s.origx,
                  mtrix := s.mtrix.filterMap fun m => (rowsFull m.2.1).map fun v => (m.1, v, m.2.2),
                  dbrefs := (resolveDbrefs { models := (flushModel s).models } s.dbrefs).1,
                  bonds := (addBonds p s.bonds).1 } := by
  unfold finishPdb
  simp only [rowsResult_fst, mtrixResult_fst, flushModel_eq]
  exact ⟨_, rfl⟩

theorem readPdbCore_info (o : ReadOpts) (lines : List (List Char)) :
    (readPdbCore o lines).1.info.identifier = (parseLines o lines).info.identifier ∧
    (readPdbCore o lines).1.info.remarks = (parseLines o lines).info.remarks ∧
    (readPdbCore o lines).1.info.cell = (parseLines o lines).info.cell ∧
    (readPdbCore o lines).1.info.symmetry = (parseLines o lines).info.symmetry ∧
    (readPdbCore o lines).1.info.scale = rowsFull (parseLines o lines).scale ∧
    (readPdbCore o lines).1.info.origx = rowsFull (parseLines o lines).origx ∧
    (readPdbCore o lines).1.info.mtrix =
      (parseLines o lines).mtrix.filterMap fun m => (rowsFull m.2.1).map fun v => (m.1, v, m.2.2) := by
  obtain ⟨p, hp⟩ := finishPdb_info (parseLines o lines)
  rw [readPdbCore_eq, hp]
  exact ⟨rfl, rfl, rfl, rfl, rfl, rfl, rfl⟩

theorem mem_mergeRemarkWarnings (errs : List PDiag) (d : PDiag) :
    d ∈ mergeRemarkWarnings errs ↔
      (d ∈ errs ∧ (d.short != "Remark too long") = true) ∨
      (errs.filter (·.short == "Remark too long") ≠ [] ∧
        d = ⟨.generalWarning, "Remark too long", (errs.filter (·.short == "Remark too long")).flatMap (·.quoted)⟩) := by
  unfold mergeRemarkWarnings
  simp only
  split
  · next h => simp only [List.mem_filter, List.isEmpty_iff.mp h, ne_eq, not_true, false_and, or_false]
  · next h =>
    have h' : errs.filter (·.short == "Remark too long") ≠ [] := fun hc => h (List.isEmpty_iff.mpr hc)
    simp only [List.mem_append, List.mem_filter, List.mem_singleton, ne_eq, h', not_false_eq_true, true_and]

theorem readPdb_eq (o : ReadOpts) (lines : List (List Char)) :
    readPdb o lines =
      if (readPdbCore o lines).2.any (fun e => e.level.fails o.level) then .err (readPdbCore o lines).2
      else .ok (readPdbCore o lines).1 (readPdbCore o lines).2 := by
  unfold readPdb
  rcases readPdbCore o lines with ⟨f, errors⟩
  rfl

/-- the gate at the end of both readers: the structure comes back, with all the diagnostics, exactly when none of
them fails -/
theorem gate_eq_ok {p : PDiag → Bool} {f f' : PdbFile} {ds ds' : List PDiag} :
    (if ds.any p = true then Outcome.err ds else Outcome.ok f ds) = .ok f' ds' ↔
      (f, ds) = (f', ds') ∧ ∀ d ∈ ds', p d = false := by
  constructor
  · intro h
    split at h
    · cases h
    · next hn =>
      cases h
      exact ⟨rfl, by simpa using hn⟩
  · rintro ⟨he, hall⟩
    cases he
    exact if_neg (by simpa using hall)

theorem readPdb_eq_ok (o : ReadOpts) (lines : List (List Char)) (f : PdbFile) (ds : List PDiag) :
    readPdb o lines = .ok f ds ↔ readPdbCore o lines = (f, ds) ∧ ∀ d ∈ ds, d.level.fails o.level = false := by
  rw [readPdb_eq]
  exact gate_eq_ok

end PdbModel
