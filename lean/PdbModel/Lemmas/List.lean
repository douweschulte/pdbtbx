/-
List facts that the property proofs need and that core does not have.
-/
namespace PdbModel

theorem prune_flatMap {α β γ} (l : List α) (f : α → γ) (keep : γ → Bool) (g : γ → List β) (h : α → List β)
    (hk : ∀ x ∈ l, keep (f x) = true → g (f x) = h x)
    (hd : ∀ x ∈ l, keep (f x) = false → h x = []) :
    ((l.map f).filter keep).flatMap g = l.flatMap h := by
  induction l with
  | nil => rfl
  | cons x xs ih =>
    have ih' := ih (fun y hy => hk y (List.mem_cons_of_mem _ hy)) (fun y hy => hd y (List.mem_cons_of_mem _ hy))
    rw [List.map_cons, List.flatMap_cons]
    cases hkx : keep (f x)
    · rw [List.filter_cons_of_neg (by simp [hkx]), ih', hd x (List.mem_cons_self ..) hkx, List.nil_append]
    · rw [List.filter_cons_of_pos hkx, List.flatMap_cons, ih', hk x (List.mem_cons_self ..) hkx]

theorem flatMap_filter_of_empty {α β} (l : List α) (keep : α → Bool) (f : α → List β)
    (h : ∀ x, keep x = false → f x = []) : (l.filter keep).flatMap f = l.flatMap f := by
  have := prune_flatMap l id keep f f (fun _ _ _ => rfl) (fun x _ hk => h x hk)
  rwa [List.map_id] at this

theorem findSome_congr {α β : Type} (l : List α) (f g : α → Option β) (h : ∀ a ∈ l, f a = g a) :
    l.findSome? f = l.findSome? g := by
  induction l with
  | nil => rfl
  | cons a as ih =>
    rw [List.findSome?_cons, List.findSome?_cons, h a (List.mem_cons_self ..),
      ih fun x hx => h x (List.mem_cons_of_mem _ hx)]

theorem find_flatMap_map {α β γ : Type} (l : List α) (below : α → List β) (ext : α → β → γ) (p : γ → Bool) :
    (l.flatMap fun x => (below x).map (ext x)).find? p =
      l.findSome? fun x => ((below x).find? (p ∘ ext x)).map (ext x) := by
  rw [List.find?_flatMap]
  simp only [List.find?_map]

theorem nodup_snoc_if {K} (l : List K) (k : K) [Decidable (k ∈ l)] (h : l.Nodup) :
    (if k ∈ l then l else l ++ [k]).Nodup := by
  split
  · exact h
  · next hk =>
    rw [List.nodup_append]
    refine ⟨h, List.pairwise_singleton _ k, ?_⟩
    intro a ha b hb e
    rw [List.mem_singleton.mp hb] at e
    exact hk (e ▸ ha)

theorem foldlM_eq_mapM_foldl {α β σ} (norm : α → Option β) (step : σ → β → σ) (ops : List α) (s : σ) :
    ops.foldlM (fun s o => (norm o).map (step s)) s = (ops.mapM norm).map fun nops => nops.foldl step s := by
  induction ops generalizing s with
  | nil => rfl
  | cons o os ih =>
    rw [List.foldlM_cons, List.mapM_cons]
    cases norm o with
    | none => rfl
    | some n =>
      rw [Option.map_some, Option.bind_eq_bind, Option.bind_some, ih]
      cases os.mapM norm <;> rfl

theorem foldlM_map_of_mapM {α β σ} (norm : α → Option β) (step : σ → β → σ) (ops : List α) (nops : List β)
    (h : ops.mapM norm = some nops) (s : σ) :
    ops.foldlM (fun s o => (norm o).map (step s)) s = some (nops.foldl step s) := by
  rw [foldlM_eq_mapM_foldl, h, Option.map_some]

theorem mapM_of_foldlM_map {α β σ} (norm : α → Option β) (step : σ → β → σ) (ops : List α) (s r : σ)
    (h : ops.foldlM (fun s o => (norm o).map (step s)) s = some r) : ∃ nops, ops.mapM norm = some nops := by
  rw [foldlM_eq_mapM_foldl] at h
  obtain ⟨nops, hn, _⟩ := Option.map_eq_some_iff.mp h
  exact ⟨nops, hn⟩

theorem foldl_snoc {β : Type _} (l a : List β) : l.foldl (fun a x => a ++ [x]) a = a ++ l := by
  induction l generalizing a with
  | nil => exact (List.append_nil a).symm
  | cons x xs ih => rw [List.foldl_cons, ih, List.append_assoc, List.singleton_append]

theorem mem_snoc_or {α} {P : α → Prop} {l : List α} {x : α} (hx : P x) : ∀ y ∈ l ++ [x], y ∈ l ∨ P y :=
  fun y hy => (List.mem_append.mp hy).imp_right fun h => by rw [List.mem_singleton.mp h]; exact hx

theorem append_subset_append {α} {l₁ l₂ r₁ r₂ : List α} (hl : l₁ ⊆ l₂) (hr : r₁ ⊆ r₂) : l₁ ++ r₁ ⊆ l₂ ++ r₂ :=
  List.append_subset.mpr ⟨List.subset_append_of_subset_left _ hl, List.subset_append_of_subset_right _ hr⟩

theorem foldl_iff_or {α β : Type} {P : β → Prop} {Q : α → Prop} {step : β → α → β}
    (h : ∀ m a, P (step m a) ↔ P m ∨ Q a) (l : List α) (m : β) :
    P (l.foldl step m) ↔ P m ∨ ∃ a ∈ l, Q a := by
  induction l generalizing m with
  | nil => simp
  | cons a as ih => rw [List.foldl_cons, ih, h]; simp only [List.mem_cons, exists_eq_or_imp, or_assoc]

theorem foldl_some_filterMap {α β : Type _} (f : α → Option β) (l : List α) (a : Option β) :
    (l.filterMap f).foldl (fun _ v => some v) a = (l.reverse.findSome? f).or a := by
  induction l generalizing a with
  | nil => rfl
  | cons x xs ih =>
    rw [List.filterMap_cons, List.reverse_cons, List.findSome?_append, List.findSome?_singleton]
    cases hx : f x with
    | none => rw [ih, Option.or_none]
    | some v => rw [List.foldl_cons, ih, Option.or_assoc, Option.some_or]

theorem perm_append_extra {β : Type _} {a' a e : List β} (h : a'.Perm (a ++ e)) (r : List β) :
    (a' ++ r).Perm (a ++ r ++ e) := by
  refine (h.append_right r).trans ?_
  rw [List.append_assoc, List.append_assoc]
  exact List.Perm.append_left _ List.perm_append_comm

theorem perm_flatMap_set {α β : Type _} (f : α → List β) (extra : List β) (l : List α) (k : Nat) (x y : α)
    (hx : l[k]? = some x) (hy : (f y).Perm (f x ++ extra)) :
    ((l.set k y).flatMap f).Perm (l.flatMap f ++ extra) := by
  induction l generalizing k with
  | nil => simp at hx
  | cons a as ih =>
    cases k with
    | zero =>
      simp only [List.getElem?_cons_zero, Option.some.injEq] at hx
      subst hx
      exact perm_append_extra hy _
    | succ k =>
      rw [List.set_cons_succ, List.flatMap_cons, List.flatMap_cons, List.append_assoc]
      exact List.Perm.append_left _ (ih k hx)

theorem map_modify_of_eq {α γ : Type _} {F : α → γ} {f : α → α} (h : ∀ x, F (f x) = F x) (l : List α) (j : Nat) :
    (l.modify j f).map F = l.map F := by
  induction l generalizing j with
  | nil => rw [List.modify_nil]
  | cons a as ih =>
    cases j with
    | zero => rw [List.modify_zero_cons, List.map_cons, List.map_cons, h]
    | succ k => rw [List.modify_succ_cons, List.map_cons, List.map_cons, ih]

theorem map_set_of_eq {α γ : Type _} {F : α → γ} {l : List α} {i : Nat} {x y : α} (hy : l[i]? = some y)
    (h : F x = F y) : (l.set i x).map F = l.map F := by
  obtain ⟨hi, rfl⟩ := List.getElem?_eq_some_iff.mp hy
  rw [List.map_set, h, ← List.getElem_map F (h := by rwa [List.length_map]), List.set_getElem_self]

theorem foldl_copy_map {α σ γ : Type _} (F : α → γ) (step : List α × σ → α → List α × σ)
    (h : ∀ acc x, ∃ y, (step acc x).1 = acc.1 ++ [y] ∧ F y = F x) (l : List α) (acc : List α × σ) :
    (l.foldl step acc).1.map F = acc.1.map F ++ l.map F := by
  induction l generalizing acc with
  | nil => rw [List.foldl_nil, List.map_nil, List.append_nil]
  | cons x xs ih =>
    obtain ⟨y, hy, hF⟩ := h acc x
    rw [List.foldl_cons, ih, hy, List.map_append, List.map_cons, List.map_nil, hF, List.append_assoc]
    rfl

theorem map_flatMap_congr {α β γ : Type _} {f : α → List β} {g : β → γ} {l l' : List α}
    (h : l'.map (fun x => (f x).map g) = l.map (fun x => (f x).map g)) :
    (l'.flatMap f).map g = (l.flatMap f).map g := by
  rw [List.map_flatMap, List.map_flatMap, List.flatMap_def, List.flatMap_def, h]

theorem span_prefix {α : Type} (p : α → Bool) (l rest : List α) (hl : ∀ x ∈ l, p x = true)
    (hr : ∀ x, rest.head? = some x → p x = false) :
    (l ++ rest).takeWhile p = l ∧ (l ++ rest).dropWhile p = rest := by
  rw [List.takeWhile_append_of_pos hl, List.dropWhile_append_of_pos hl]
  cases rest with
  | nil => exact ⟨List.append_nil l, rfl⟩
  | cons x r =>
    have hx : ¬ p x = true := by simp [hr x rfl]
    rw [List.takeWhile_cons_of_neg hx, List.dropWhile_cons_of_neg hx]
    exact ⟨List.append_nil l, rfl⟩

theorem span_all {α : Type} (p : α → Bool) (l : List α) (hl : ∀ x ∈ l, p x = true) :
    l.takeWhile p = l ∧ l.dropWhile p = [] := by
  have := span_prefix p l [] hl (fun _ h => nomatch h)
  rwa [List.append_nil] at this

theorem split_at_mid {α} (l : List α) (m : Nat) (x : α) (h : l[m]? = some x) :
    l = l.take m ++ x :: l.drop (m + 1) := by
  obtain ⟨hm, hx⟩ := List.getElem?_eq_some_iff.mp h
  rw [← hx, ← List.drop_eq_getElem_cons hm, List.take_append_drop]

theorem flatMap_index {α β : Type} (l : List α) (f : α → List β) (i j : Nat) (x : α) (y : β)
    (hx : l[i]? = some x) (hy : (f x)[j]? = some y) :
    (l.flatMap f)[((l.take i).map (fun a => (f a).length)).sum + j]? = some y := by
  have e : l.flatMap f = (l.take i).flatMap f ++ (f x ++ (l.drop (i + 1)).flatMap f) := by
    rw [← List.flatMap_cons, ← List.flatMap_append, ← split_at_mid l i x hx]
  rw [e, ← List.length_flatMap, List.getElem?_append_right (Nat.le_add_right ..), Nat.add_sub_cancel_left,
    List.getElem?_append_left (List.getElem?_eq_some_iff.mp hy).1, hy]

theorem findIdx?_get {α : Type} {p : α → Bool} {l : List α} {i : Nat} {x : α} (h : l.findIdx? p = some i)
    (hx : l[i]? = some x) : p x = true := by
  obtain ⟨hi, hp, _⟩ := List.findIdx?_eq_some_iff_getElem.mp h
  rw [List.getElem?_eq_getElem hi, Option.some.injEq] at hx
  exact hx ▸ hp

theorem eq_of_getElem?_eq_some {α} {l : List α} (hl : l.Nodup) {i j : Nat} {a : α} (hi : l[i]? = some a)
    (hj : l[j]? = some a) : i = j :=
  (List.getElem?_inj (List.getElem?_eq_some_iff.mp hi).1 hl).mp (hi.trans hj.symm)

theorem getElem?_of_findIdx?_beq {α} [BEq α] [LawfulBEq α] {l : List α} {k : Nat} {a : α}
    (h : l.findIdx? (· == a) = some k) : l[k]? = some a := by
  obtain ⟨hlt, he, _⟩ := List.findIdx?_eq_some_iff_getElem.mp h
  rw [List.getElem?_eq_getElem hlt, eq_of_beq he]

theorem findIdx?_beq_of_nodup {α} [BEq α] [LawfulBEq α] {l : List α} (hl : l.Nodup) {k : Nat} {a : α}
    (hk : l[k]? = some a) : l.findIdx? (· == a) = some k := by
  cases hf : l.findIdx? (· == a) with
  | none => simpa using List.findIdx?_eq_none_iff.mp hf a (List.mem_of_getElem? hk)
  | some j => rw [eq_of_getElem?_eq_some hl (getElem?_of_findIdx?_beq hf) hk]

/-! A sweep over all places `l[k]?` turned into one pass over `l`: the kernel walks to every place from the start
otherwise, which is quadratic. -/

theorem range_flatMap_getD {α β : Type} (l : List α) (d : α) (f : Nat → α → List β) :
    (List.range l.length).flatMap (fun i => f i (l[i]?.getD d)) = l.zipIdx.flatMap (fun p => f p.2 p.1) := by
  rw [List.range_eq_range', ← List.zipIdx_map_snd 0 l, List.flatMap_map, List.flatMap_def, List.flatMap_def]
  congr 1
  refine List.map_congr_left fun p hp => ?_
  rw [List.mk_mem_zipIdx_iff_getElem?.mp hp]
  rfl

theorem filter_range_getElem? {α} (l : List α) (p : Option α → Bool) :
    (List.range l.length).filter (fun k => p l[k]?) = (l.zipIdx.filter fun x => p (some x.1)).map (·.2) := by
  rw [List.range_eq_range', ← List.zipIdx_map_snd 0 l, List.filter_map]
  congr 1
  exact List.filter_congr fun x hx => by rw [Function.comp, List.mem_zipIdx_iff_getElem?.mp hx]

end PdbModel
