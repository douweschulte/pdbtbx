/-
The hierarchy tuples of a container carry exactly its atoms, in order: level by level.
-/
import PdbModel.Hier
namespace PdbModel

theorem Residue.map_atom_withHAC (r : Residue) : r.withHAC.map (·.atom) = r.atoms := by
  simp only [Residue.withHAC, Residue.atoms, Conformer.withH, List.map_flatMap, List.map_map, Function.comp_def,
    List.map_id']

theorem Chain.map_atom_withHACR (c : Chain) : c.withHACR.map (·.atom) = c.atoms := by
  simp only [Chain.withHACR, Chain.atoms, List.map_flatMap, List.map_map, Function.comp_def,
    Residue.map_atom_withHAC]

theorem Model.map_atom_withHACRC (m : Model) : m.withHACRC.map (·.atom) = m.atoms := by
  simp only [Model.withHACRC, Model.atoms, List.map_flatMap, List.map_map, Function.comp_def,
    Chain.map_atom_withHACR]

end PdbModel
