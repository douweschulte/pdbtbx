/-
Renumbering, level by level. The counters are threaded through one explicit recursion per level; what a level does to
the atoms (residues) below it is what `renumAtoms` (`renumResidues`) does to the flat list of them
(`renumConfAtoms_atoms`, `renumResidues_atoms`, `renumChains_residues`), so the numbers are read off at those two
functions and no counter arithmetic is carried from level to level.
-/
import PdbModel.Sort
import PdbModel.Lemmas.Base26
namespace PdbModel

theorem renumAtoms_serials (n : Nat) (as : List Atom) :
    (renumAtoms n as).1.map (·.serial) = List.range' n (renumAtoms n as).1.length := by
  induction as generalizing n with
  | nil => rfl
  | cons a as ih => simp only [renumAtoms, List.map_cons, List.length_cons, List.range'_succ, ← ih]

theorem renumAtoms_append (n : Nat) (as bs : List Atom) :
    renumAtoms n (as ++ bs) =
      ((renumAtoms n as).1 ++ (renumAtoms (renumAtoms n as).2 bs).1, (renumAtoms (renumAtoms n as).2 bs).2) := by
  induction as generalizing n with
  | nil => rfl
  | cons a as ih => simp only [List.cons_append, renumAtoms, ih]

theorem renumAtoms_frame (n : Nat) (as : List Atom) :
    (renumAtoms n as).1.map (fun a => { a with serial := 0 }) = as.map (fun a => { a with serial := 0 }) := by
  induction as generalizing n with
  | nil => simp [renumAtoms]
  | cons a as ih => simp [renumAtoms, ih]

theorem renumAtoms_length (n : Nat) (as : List Atom) : (renumAtoms n as).1.length = as.length := by
  simpa using congrArg List.length (renumAtoms_frame n as)

theorem renumAtoms_idem (n : Nat) (as : List Atom) : renumAtoms n (renumAtoms n as).1 = renumAtoms n as := by
  induction as generalizing n with
  | nil => simp [renumAtoms]
  | cons a as ih => simp only [renumAtoms, ih]

theorem renumConfAtoms_atoms (n : Nat) (cs : List Conformer) :
    ((renumConfAtoms n cs).1.flatMap (·.atoms), (renumConfAtoms n cs).2) = renumAtoms n (cs.flatMap (·.atoms)) := by
  induction cs generalizing n with
  | nil => rfl
  | cons c cs ih => simp only [renumConfAtoms, List.flatMap_cons, renumAtoms_append, ← ih]

theorem renumConfAtoms_shape (n : Nat) (cs : List Conformer) :
    (renumConfAtoms n cs).1.map (fun c => (c.name, c.alt, c.modification, c.atoms.length)) =
      cs.map (fun c => (c.name, c.alt, c.modification, c.atoms.length)) := by
  induction cs generalizing n with
  | nil => simp [renumConfAtoms]
  | cons c cs ih => simp [renumConfAtoms, ih, renumAtoms_length]

theorem renumConfAtoms_length (n : Nat) (cs : List Conformer) : (renumConfAtoms n cs).1.length = cs.length := by
  simpa using congrArg List.length (renumConfAtoms_shape n cs)

theorem renumConfAtoms_idem (n : Nat) (cs : List Conformer) :
    renumConfAtoms n (renumConfAtoms n cs).1 = renumConfAtoms n cs := by
  induction cs generalizing n with
  | nil => simp [renumConfAtoms]
  | cons c cs ih => simp only [renumConfAtoms, renumAtoms_idem, ih]

theorem relabelFrom_length (i : Nat) (cs : List Conformer) : (relabelFrom i cs).length = cs.length := by
  induction cs generalizing i with
  | nil => rfl
  | cons c cs ih => simp [relabelFrom, ih]

theorem relabelConfs_length (cs : List Conformer) : (relabelConfs cs).length = cs.length := by
  unfold relabelConfs; split <;> simp [relabelFrom_length]

theorem relabelFrom_idem (i : Nat) (cs : List Conformer) : relabelFrom i (relabelFrom i cs) = relabelFrom i cs := by
  induction cs generalizing i with
  | nil => rfl
  | cons c cs ih => simp [relabelFrom, ih]

theorem relabelConfs_idem (cs : List Conformer) : relabelConfs (relabelConfs cs) = relabelConfs cs := by
  unfold relabelConfs
  by_cases h : cs.length > 1
  · simp only [h, if_true, relabelFrom_length, relabelFrom_idem]
  · simp only [h, if_false, List.length_map, List.map_map]; rfl

theorem renumConfAtoms_relabelFrom (n i : Nat) (cs : List Conformer) :
    renumConfAtoms n (relabelFrom i cs) = (relabelFrom i (renumConfAtoms n cs).1, (renumConfAtoms n cs).2) := by
  induction cs generalizing n i with
  | nil => rfl
  | cons c cs ih => simp only [relabelFrom, renumConfAtoms, ih]

theorem renumConfAtoms_clear (n : Nat) (cs : List Conformer) :
    renumConfAtoms n (cs.map fun c => { c with alt := none }) =
      ((renumConfAtoms n cs).1.map (fun c => { c with alt := none }), (renumConfAtoms n cs).2) := by
  induction cs generalizing n with
  | nil => rfl
  | cons c cs ih => simp only [List.map_cons, renumConfAtoms, ih]

theorem renumConfAtoms_relabel (n : Nat) (cs : List Conformer) :
    renumConfAtoms n (relabelConfs cs) = (relabelConfs (renumConfAtoms n cs).1, (renumConfAtoms n cs).2) := by
  unfold relabelConfs
  rw [renumConfAtoms_length]
  split
  · exact renumConfAtoms_relabelFrom n 0 cs
  · exact renumConfAtoms_clear n cs

theorem relabelFrom_atoms (i : Nat) (cs : List Conformer) :
    (relabelFrom i cs).flatMap (·.atoms) = cs.flatMap (·.atoms) := by
  induction cs generalizing i with
  | nil => rfl
  | cons c cs ih => simp [relabelFrom, ih]

theorem relabelConfs_atoms (cs : List Conformer) : (relabelConfs cs).flatMap (·.atoms) = cs.flatMap (·.atoms) := by
  unfold relabelConfs; split
  · exact relabelFrom_atoms 0 cs
  · exact List.flatMap_map ..

theorem relabelFrom_alts (i : Nat) (cs : List Conformer) :
    (relabelFrom i cs).map (·.alt) = (List.range' i cs.length).map fun k => some (numberToBase26 k) := by
  induction cs generalizing i with
  | nil => rfl
  | cons c cs ih =>
    simp only [relabelFrom, List.map_cons, List.length_cons, List.range'_succ, ih, (prepId_base26 i).1]

theorem relabelConfs_alts (cs : List Conformer) :
    ((relabelConfs cs).length ≤ 1 → ∀ c ∈ relabelConfs cs, c.alt = none) ∧
    ((relabelConfs cs).length > 1 →
      (relabelConfs cs).map (·.alt) = (List.range' 0 (relabelConfs cs).length).map fun k => some (numberToBase26 k)) := by
  rw [relabelConfs_length]
  unfold relabelConfs
  split
  · next h => exact ⟨fun hle => absurd h (Nat.not_lt.mpr hle), fun _ => relabelFrom_alts 0 cs⟩
  · next h =>
    refine ⟨fun _ c hc => ?_, fun hgt => absurd hgt h⟩
    obtain ⟨c', _, rfl⟩ := List.mem_map.mp hc
    rfl

theorem renumResidues_idem (rn an : Nat) (rs : List Residue) :
    renumResidues rn an (renumResidues rn an rs).1 = renumResidues rn an rs := by
  induction rs generalizing rn an with
  | nil => rfl
  | cons r rs ih =>
    simp only [renumResidues, renumConfAtoms_relabel, renumConfAtoms_idem, relabelConfs_idem, ih]

theorem renumResidues_serials (rn an : Nat) (rs : List Residue) :
    (renumResidues rn an rs).1.map (·.serial) = (List.range' rn (renumResidues rn an rs).1.length).map Int.ofNat := by
  induction rs generalizing rn an with
  | nil => rfl
  | cons r rs ih => simp only [renumResidues, List.map_cons, List.length_cons, List.range'_succ, ← ih]; rfl

theorem renumResidues_atoms (rn an : Nat) (rs : List Residue) :
    ((renumResidues rn an rs).1.flatMap (·.atoms), (renumResidues rn an rs).2.2) =
      renumAtoms an (rs.flatMap (·.atoms)) := by
  induction rs generalizing rn an with
  | nil => rfl
  | cons r rs ih =>
    have ha : ∀ s i cs, (Residue.mk s i (relabelConfs cs)).atoms = cs.flatMap (·.atoms) :=
      fun _ _ cs => relabelConfs_atoms cs
    simp only [renumResidues, List.flatMap_cons, ha, show r.atoms = r.conformers.flatMap (·.atoms) from rfl,
      renumAtoms_append, ← ih (rn + 1), ← renumConfAtoms_atoms]

theorem renumResidues_append (rn an : Nat) (rs ss : List Residue) :
    renumResidues rn an (rs ++ ss) =
      let x := renumResidues rn an rs
      let y := renumResidues x.2.1 x.2.2 ss
      (x.1 ++ y.1, y.2) := by
  induction rs generalizing rn an with
  | nil => rfl
  | cons r rs ih => simp only [List.cons_append, renumResidues, ih]

theorem renumResidues_each (rn an : Nat) (rs : List Residue) :
    ∀ r ∈ (renumResidues rn an rs).1, r.icode = none ∧
      (r.conformers.length ≤ 1 → ∀ c ∈ r.conformers, c.alt = none) ∧
      (r.conformers.length > 1 →
        r.conformers.map (·.alt) = (List.range' 0 r.conformers.length).map fun k => some (numberToBase26 k)) := by
  induction rs generalizing rn an with
  | nil => intro r hr; cases hr
  | cons r rs ih =>
    intro x hx
    rcases List.mem_cons.mp hx with rfl | hx
    · exact ⟨rfl, relabelConfs_alts _⟩
    · exact ih _ _ x hx

theorem renumChains_idem (ci rn an : Nat) (cs : List Chain) :
    renumChains ci rn an (renumChains ci rn an cs) = renumChains ci rn an cs := by
  induction cs generalizing ci rn an with
  | nil => rfl
  | cons c cs ih =>
    simp only [renumChains, renumResidues_idem, ih, (prepId_base26 ci).2, Option.getD_some]

theorem renumChains_ids (ci rn an : Nat) (cs : List Chain) :
    (renumChains ci rn an cs).map (·.id) = (List.range' ci (renumChains ci rn an cs).length).map numberToBase26 := by
  induction cs generalizing ci rn an with
  | nil => rfl
  | cons c cs ih =>
    simp only [renumChains, List.map_cons, List.length_cons, List.range'_succ, ← ih,
      (prepId_base26 ci).2, Option.getD_some]

theorem renumChains_residues (ci rn an : Nat) (cs : List Chain) :
    (renumChains ci rn an cs).flatMap (·.residues) = (renumResidues rn an (cs.flatMap (·.residues))).1 := by
  induction cs generalizing ci rn an with
  | nil => rfl
  | cons c cs ih => simp only [renumChains, List.flatMap_cons, renumResidues_append, ih]

theorem renumModels_idem (n : Nat) (ms : List Model) : renumModels n (renumModels n ms) = renumModels n ms := by
  induction ms generalizing n with
  | nil => rfl
  | cons m ms ih => simp only [renumModels, renumChains_idem, ih]

theorem renumModels_serials (n : Nat) (ms : List Model) :
    (renumModels n ms).map (·.serial) = List.range' n ms.length := by
  induction ms generalizing n with
  | nil => rfl
  | cons m ms ih => simp only [renumModels, List.map_cons, List.length_cons, List.range'_succ, ih]

theorem mem_renumModels (n : Nat) (ms : List Model) (m' : Model) (h : m' ∈ renumModels n ms) :
    ∃ m ∈ ms, m'.chains = renumChains 0 1 1 m.chains := by
  induction ms generalizing n with
  | nil => simp [renumModels] at h
  | cons m ms ih =>
    simp only [renumModels, List.mem_cons] at h
    rcases h with rfl | h
    · exact ⟨m, List.mem_cons_self .., rfl⟩
    · obtain ⟨x, hx, he⟩ := ih _ h; exact ⟨x, List.mem_cons_of_mem _ hx, he⟩

end PdbModel
