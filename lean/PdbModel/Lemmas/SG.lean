/-
The space-group operators of C17 as numbers (`SG.lean`): what the table checks mean (`GroupLaws`); why a kernel check of
a few products per group is enough — `compose12` is associative, so a list generated by operators that map it into itself
is closed (`Generated.closed`), and the translator's certificate is checked by `certOk`; and how the arithmetic modulo 12
lifts to integer matrices (`Rep`).
-/
import PdbModel.SG
namespace PdbModel

theorem OpTree.mem_sound (t : OpTree) (x : Nat) (h : t.mem x = true) : x ∈ t.toList := by
  induction t with
  | leaf => simp [OpTree.mem] at h
  | node l v r ihl ihr =>
    unfold OpTree.mem at h
    simp only [OpTree.toList, List.mem_append, List.mem_cons]
    by_cases h1 : (x == v) = true
    · right; left; simpa using h1
    · simp only [h1, Bool.false_eq_true, if_false] at h
      by_cases h2 : x < v
      · simp only [h2, if_true] at h; left; exact ihl h
      · simp only [h2, if_false] at h; right; right; exact ihr h

theorem distinct12_nodup (l : List Nat) (h : distinct12 l = true) : l.Nodup := by
  induction l with
  | nil => exact List.nodup_nil
  | cons x xs ih =>
    simp only [distinct12, Bool.and_eq_true, Bool.not_eq_true'] at h
    refine List.nodup_cons.mpr ⟨?_, ih h.2⟩
    intro hm
    have : xs.contains x = true := List.contains_iff_mem.mpr hm
    rw [h.1] at this; cases this

/-- what C17 asks of the operator list of one group: every operator well formed, no operator twice, closed under
composition modulo whole-cell translations -/
def GroupLaws (g : List Nat) : Prop :=
  (∀ o ∈ g, opOk o = true) ∧ g.Nodup ∧ ∀ a ∈ g, ∀ b ∈ g, compose12 a b ∈ g

theorem groupOk_spec (t : OpTree) (ops : List Nat) (h : groupOk t ops = true) : GroupLaws (allOps ops) := by
  simp only [groupOk, closed12, Bool.and_eq_true, List.all_eq_true, List.contains_iff_mem] at h
  obtain ⟨⟨⟨h1, h2⟩, h3⟩, h4⟩ := h
  exact ⟨h1, distinct12_nodup _ h2, fun a ha b hb => h3 _ (t.mem_sound _ (h4 a ha b hb))⟩

/-! `groupOk` multiplies all Z² pairs. A group is closed as soon as a few generators map the list into itself and every
operator is a product of generators; that needs associativity of `compose12`, which holds for all numbers because
`compose12` reads its arguments through the digit accessors only and reduces every entry modulo 12. -/

theorem foldl_digits_div (ds : List Nat) (h : ∀ d ∈ ds, d < 16) (m : Nat) :
    ds.foldl (fun n x => n * 16 + x) m / 16 ^ ds.length = m := by
  induction ds generalizing m with
  | nil => simp
  | cons d ds ih =>
    have := h d (List.mem_cons_self ..)
    rw [List.foldl_cons, List.length_cons, Nat.pow_succ, ← Nat.div_div_eq_div_mul,
      ih (fun x hx => h x (List.mem_cons_of_mem _ hx))]
    omega

theorem foldl_digits (ds : List Nat) (h : ∀ d ∈ ds, d < 16) (m : Nat) :
    (List.range ds.length).map (fun k => ds.foldl (fun n x => n * 16 + x) m / 16 ^ k % 16) = ds.reverse := by
  induction ds generalizing m with
  | nil => rfl
  | cons d ds ih =>
    have hds := fun x hx => h x (List.mem_cons_of_mem d hx)
    have := h d (List.mem_cons_self ..)
    rw [List.length_cons, List.range_succ, List.map_append, List.foldl_cons, ih hds, List.reverse_cons,
      List.map_singleton, foldl_digits_div ds hds]
    congr 2; omega

theorem decode12_encode12 (ds : List Nat) (hlen : ds.length = 12) (h : ∀ d ∈ ds, d < 16) :
    decode12 (encode12 ds) = ds := by
  have hd : ∀ o, decode12 o = ((List.range 12).map fun k => o / 16 ^ k % 16).reverse := fun o => by
    simp [decode12, List.range, List.range.loop]
  rw [hd, ← hlen, encode12, foldl_digits ds h, List.reverse_reverse]

/-- the digit accessors on a number written out in base 16 -/
theorem digits16 {o d0 d1 d2 d3 d4 d5 d6 d7 d8 d9 d10 d11 : Nat}
    (ho : o = d0 * 17592186044416 + d1 * 1099511627776 + d2 * 68719476736 + d3 * 4294967296 + d4 * 268435456 +
      d5 * 16777216 + d6 * 1048576 + d7 * 65536 + d8 * 4096 + d9 * 256 + d10 * 16 + d11)
    (h : ∀ d ∈ [d0, d1, d2, d3, d4, d5, d6, d7, d8, d9, d10, d11], d < 16) :
    e0 o = d0 ∧ e1 o = d1 ∧ e2 o = d2 ∧ e3 o = d3 ∧ e4 o = d4 ∧ e5 o = d5 ∧ e6 o = d6 ∧ e7 o = d7 ∧
    e8 o = d8 ∧ e9 o = d9 ∧ e10 o = d10 ∧ e11 o = d11 := by
  have hd := decode12_encode12 _ rfl h
  have ho' : encode12 [d0, d1, d2, d3, d4, d5, d6, d7, d8, d9, d10, d11] = o := by
    simp only [encode12, List.foldl]; omega
  rw [ho'] at hd
  simp only [decode12, List.cons.injEq, and_true] at hd
  exact hd

/-- the same for twelve residues modulo 12 — the form in which `compose12` builds its result -/
theorem digits12 {o v0 v1 v2 v3 v4 v5 v6 v7 v8 v9 v10 v11 : Nat}
    (ho : o = v0 % 12 * 17592186044416 + v1 % 12 * 1099511627776 + v2 % 12 * 68719476736 + v3 % 12 * 4294967296 +
      v4 % 12 * 268435456 + v5 % 12 * 16777216 + v6 % 12 * 1048576 + v7 % 12 * 65536 + v8 % 12 * 4096 +
      v9 % 12 * 256 + v10 % 12 * 16 + v11 % 12) :
    e0 o = v0 % 12 ∧ e1 o = v1 % 12 ∧ e2 o = v2 % 12 ∧ e3 o = v3 % 12 ∧ e4 o = v4 % 12 ∧ e5 o = v5 % 12 ∧
    e6 o = v6 % 12 ∧ e7 o = v7 % 12 ∧ e8 o = v8 % 12 ∧ e9 o = v9 % 12 ∧ e10 o = v10 % 12 ∧ e11 o = v11 % 12 := by
  have lt : ∀ v : Nat, v % 12 < 16 := fun v => by omega
  refine digits16 ho ?_
  simp only [List.forall_mem_cons]
  exact ⟨lt _, lt _, lt _, lt _, lt _, lt _, lt _, lt _, lt _, lt _, lt _, lt _, nofun⟩

theorem dot_mod_left (x y z p q r t : Nat) :
    (x % 12 * p + y % 12 * q + z % 12 * r + t % 12) % 12 = (x * p + y * q + z * r + t) % 12 := by
  simp [Nat.add_mod, Nat.mul_mod]

theorem dot_mod_right (x y z p q r t : Nat) :
    (p * (x % 12) + q * (y % 12) + r * (z % 12) + t) % 12 = (p * x + q * y + r * z + t) % 12 := by
  simp [Nat.add_mod, Nat.mul_mod]

/-- one translation entry of `(a ∘ b) ∘ c` and of `a ∘ (b ∘ c)`: row `a0 a1 a2 | s` of `a`, all of `b`, column
`c0 c1 c2` of `c` -/
theorem translation_assoc (a0 a1 a2 s b0 b1 b2 u b4 b5 b6 v b8 b9 b10 w c0 c1 c2 : Nat) :
    ((a0 * b0 + a1 * b4 + a2 * b8) % 12 * c0 + (a0 * b1 + a1 * b5 + a2 * b9) % 12 * c1 +
      (a0 * b2 + a1 * b6 + a2 * b10) % 12 * c2 + (a0 * u + a1 * v + a2 * w + s) % 12) % 12 =
    (a0 * ((b0 * c0 + b1 * c1 + b2 * c2 + u) % 12) + a1 * ((b4 * c0 + b5 * c1 + b6 * c2 + v) % 12) +
      a2 * ((b8 * c0 + b9 * c1 + b10 * c2 + w) % 12) + s) % 12 := by
  rw [dot_mod_left, dot_mod_right]
  congr 1
  simp only [Nat.mul_add, Nat.add_mul, Nat.mul_assoc]
  ac_rfl

/-- one rotation entry: the translation entry without translations -/
theorem rotation_assoc (a0 a1 a2 b0 b1 b2 b4 b5 b6 b8 b9 b10 c0 c1 c2 : Nat) :
    ((a0 * b0 + a1 * b4 + a2 * b8) % 12 * c0 + (a0 * b1 + a1 * b5 + a2 * b9) % 12 * c1 +
      (a0 * b2 + a1 * b6 + a2 * b10) % 12 * c2) % 12 =
    (a0 * ((b0 * c0 + b1 * c1 + b2 * c2) % 12) + a1 * ((b4 * c0 + b5 * c1 + b6 * c2) % 12) +
      a2 * ((b8 * c0 + b9 * c1 + b10 * c2) % 12)) % 12 := by
  simpa using translation_assoc a0 a1 a2 0 b0 b1 b2 0 b4 b5 b6 0 b8 b9 b10 0 c0 c1 c2

theorem compose12_assoc (a b c : Nat) : compose12 (compose12 a b) c = compose12 a (compose12 b c) := by
  obtain ⟨x0, x1, x2, x3, x4, x5, x6, x7, x8, x9, x10, x11⟩ : _ := digits12 (o := compose12 a b) rfl
  obtain ⟨y0, y1, y2, y3, y4, y5, y6, y7, y8, y9, y10, y11⟩ : _ := digits12 (o := compose12 b c) rfl
  generalize compose12 a b = x at *
  generalize compose12 b c = y at *
  unfold compose12
  simp only [x0, x1, x2, x3, x4, x5, x6, x7, x8, x9, x10, x11, y0, y1, y2, y3, y4, y5, y6, y7, y8, y9, y10, y11,
    rotation_assoc, translation_assoc]

theorem compose12_identity (x : Nat) : compose12 identity12 x =
    e0 x % 12 * 17592186044416 + e1 x % 12 * 1099511627776 + e2 x % 12 * 68719476736 + e3 x % 12 * 4294967296 +
    e4 x % 12 * 268435456 + e5 x % 12 * 16777216 + e6 x % 12 * 1048576 + e7 x % 12 * 65536 + e8 x % 12 * 4096 +
    e9 x % 12 * 256 + e10 x % 12 * 16 + e11 x % 12 := by
  simp [compose12, show e0 identity12 = 1 from rfl, show e1 identity12 = 0 from rfl,
    show e2 identity12 = 0 from rfl, show e3 identity12 = 0 from rfl, show e4 identity12 = 0 from rfl,
    show e5 identity12 = 1 from rfl, show e6 identity12 = 0 from rfl, show e7 identity12 = 0 from rfl,
    show e8 identity12 = 0 from rfl, show e9 identity12 = 0 from rfl, show e10 identity12 = 1 from rfl,
    show e11 identity12 = 0 from rfl]

/-- the identity is a left identity on everything `compose12` returns (its entries are reduced already) -/
theorem compose12_identity_compose (a b : Nat) : compose12 identity12 (compose12 a b) = compose12 a b := by
  obtain ⟨x0, x1, x2, x3, x4, x5, x6, x7, x8, x9, x10, x11⟩ : _ := digits12 (o := compose12 a b) rfl
  rw [compose12_identity, x0, x1, x2, x3, x4, x5, x6, x7, x8, x9, x10, x11]
  simp only [Nat.mod_mod]
  rfl

/-- products of members of `S` -/
inductive Generated (S : List Nat) : Nat → Prop
  | one : Generated S identity12
  | mul {s g} : s ∈ S → Generated S g → Generated S (compose12 s g)

theorem Generated.identity_compose {S g} (h : Generated S g) : compose12 identity12 g = g := by
  cases h with
  | one => rfl
  | mul => exact compose12_identity_compose _ _

theorem Generated.closed {S G : List Nat} (hG : ∀ g ∈ G, Generated S g)
    (hS : ∀ s ∈ S, ∀ g ∈ G, compose12 s g ∈ G) : ∀ a ∈ G, ∀ b ∈ G, compose12 a b ∈ G := by
  intro a ha b hb
  replace ha := hG a ha
  induction ha with
  | one => rw [(hG b hb).identity_compose]; exact hb
  | mul hs _ ih => rw [compose12_assoc]; exact hS _ hs _ ih

/-- `W`, `g ∘ W`, …, `gʳ⁻¹ ∘ W` -/
def powerBlocks (g : Nat) : Nat → List Nat → List Nat
  | 0, _ => []
  | r + 1, W => W ++ powerBlocks g r (W.map (compose12 g))

/-- all products `g₁^e₁ ∘ … ∘ gₙ^eₙ` with `eᵢ < rᵢ`, for the list of the `(gᵢ, rᵢ)` -/
def chainProducts : List (Nat × Nat) → List Nat
  | [] => [identity12]
  | (g, r) :: c => powerBlocks g r (chainProducts c)

theorem Generated.of_mem_powerBlocks {S : List Nat} {g : Nat} (hg : g ∈ S) (r : Nat) :
    ∀ W : List Nat, (∀ w ∈ W, Generated S w) → ∀ w ∈ powerBlocks g r W, Generated S w := by
  induction r with
  | zero => intro _ _ w hw; cases hw
  | succ r ih =>
    intro W hW w hw
    rcases List.mem_append.mp hw with h | h
    · exact hW w h
    · refine ih _ (fun w' hw' => ?_) w h
      obtain ⟨v, hv, rfl⟩ := List.mem_map.mp hw'
      exact .mul hg (hW v hv)

theorem Generated.of_mem_chainProducts {S : List Nat} :
    ∀ c : List (Nat × Nat), (∀ p ∈ c, p.1 ∈ S) → ∀ w ∈ chainProducts c, Generated S w
  | [], _, w, hw => by rw [List.mem_singleton.mp hw]; exact .one
  | (g, r) :: c, hc, w, hw =>
    of_mem_powerBlocks (hc (g, r) (List.mem_cons_self ..)) r _
      (of_mem_chainProducts c fun p hp => hc p (List.mem_cons_of_mem _ hp)) w hw

/-! The certificate check avoids the other two quadratic sweeps of `groupOk` as well (`distinct12` and
`t.toList.all g.contains`): the operators and the products are sorted by insertion into a search tree and compared with the
strictly increasing list the translator's tree flattens to. -/

/-- `Nat.blt` and `cond`, not `if x < v`: the kernel evaluates them directly, while every `if` on numbers goes through
`Nat.decLt` / `Nat.decEq` and makes a step of the insertion more than twice as dear -/
def OpTree.insert : OpTree → Nat → OpTree
  | .leaf, x => .node .leaf x .leaf
  | .node l v r, x =>
    bif x.blt v then .node (l.insert x) v r else bif v.blt x then .node l v (r.insert x) else .node l v r

theorem OpTree.mem_toList_insert (x y : Nat) : ∀ t : OpTree, y ∈ (t.insert x).toList ↔ y = x ∨ y ∈ t.toList
  | .leaf => by simp [insert, toList]
  | .node l v r => by
    have hl := mem_toList_insert x y l
    have hr := mem_toList_insert x y r
    simp only [insert, cond_eq_ite, Nat.blt_eq]
    split
    · simp only [toList, List.mem_append, List.mem_cons, hl, or_assoc, or_left_comm]
    · split
      · simp only [toList, List.mem_append, List.mem_cons, hr, or_left_comm]
      · obtain rfl : x = v := by omega
        simp only [toList, List.mem_append, List.mem_cons]
        exact ⟨.inr, fun h => h.elim (fun e => .inr (.inl e)) id⟩

/-- the members of `l` in increasing order, each once -/
def treeSort (l : List Nat) : List Nat := (l.foldl OpTree.insert .leaf).toList

theorem mem_treeSort {l : List Nat} {x : Nat} : x ∈ treeSort l ↔ x ∈ l := by
  suffices h : ∀ t : OpTree, x ∈ (l.foldl OpTree.insert t).toList ↔ x ∈ t.toList ∨ x ∈ l by
    simpa [OpTree.toList, treeSort] using h .leaf
  induction l with
  | nil => simp
  | cons y l ih =>
    intro t
    simp only [List.foldl_cons, ih, OpTree.mem_toList_insert, List.mem_cons, or_assoc, or_left_comm]

def strictlyIncreasing : List Nat → Bool
  | x :: y :: l => x < y && strictlyIncreasing (y :: l)
  | _ => true

theorem strictlyIncreasing_nodup : ∀ l : List Nat, strictlyIncreasing l = true → l.Nodup := by
  suffices h : ∀ l x, strictlyIncreasing (x :: l) = true → (∀ y ∈ l, x < y) ∧ (x :: l).Nodup from fun
    | [], _ => .nil
    | x :: l, hl => (h l x hl).2
  intro l
  induction l with
  | nil => simp
  | cons y l ih =>
    intro x h
    simp only [strictlyIncreasing, Bool.and_eq_true, decide_eq_true_eq] at h
    obtain ⟨hlt, hnd⟩ := ih y h.2
    have hx : ∀ z ∈ y :: l, x < z := by
      intro z hz
      rcases List.mem_cons.mp hz with rfl | hz
      · exact h.1
      · exact Nat.lt_trans h.1 (hlt z hz)
    exact ⟨hx, List.nodup_cons.mpr ⟨fun hm => Nat.lt_irrefl _ (hx x hm), hnd⟩⟩

theorem perm_of_nodup_subset : ∀ {L G : List Nat}, L.Nodup → (∀ x ∈ L, x ∈ G) → G.length ≤ L.length → L.Perm G
  | [], G, _, _, hlen => by rw [List.length_eq_zero_iff.mp (Nat.le_zero.mp hlen)]
  | x :: L, G, hL, hsub, hlen => by
    obtain ⟨hx, hL⟩ := List.nodup_cons.mp hL
    have hxG : x ∈ G := hsub x (List.mem_cons_self ..)
    refine .trans (.cons x (perm_of_nodup_subset hL (G := G.erase x) ?_ ?_)) (List.perm_cons_erase hxG).symm
    · intro y hy
      exact (List.mem_erase_of_ne (by rintro rfl; exact hx hy)).mpr (hsub y (List.mem_cons_of_mem _ hy))
    · rw [List.length_erase_of_mem hxG]; simp only [List.length_cons] at hlen; omega

theorem nodup_of_treeSort {l : List Nat} (hs : strictlyIncreasing (treeSort l) = true)
    (hlen : l.length = (treeSort l).length) : l.Nodup :=
  (perm_of_nodup_subset (strictlyIncreasing_nodup _ hs) (fun _ => mem_treeSort.mp) (Nat.le_of_eq hlen)).nodup_iff.mp
    (strictlyIncreasing_nodup _ hs)

def distinctNat (l : List Nat) : Bool := strictlyIncreasing (treeSort l) && l.length == (treeSort l).length

/-- a list is free of repetition when some numbering of its entries is (the numbering need not be injective) -/
theorem nodup_of_keys {α} (f : α → Nat) {l : List α} (h : distinctNat (l.map f) = true) : l.Nodup := by
  simp only [distinctNat, Bool.and_eq_true, beq_iff_eq] at h
  exact List.Pairwise.of_map f (fun _ _ hne hab => hne (congrArg f hab)) (nodup_of_treeSort h.1 h.2)

/-- what `groupOk` checks, without its three quadratic sweeps: closure by a certificate `c` (found by the translator) —
every operator is among the products of powers of the few operators `c` names, and those few map the list into itself —
and the other two by sorting -/
def certOk (t : OpTree) (ops : List Nat) (c : List (Nat × Nat)) : Bool :=
  let g := allOps ops
  let s := t.toList
  g.all opOk && strictlyIncreasing s && g.length == s.length && treeSort g == s && treeSort (chainProducts c) == s &&
  c.all fun p => g.all fun b => t.mem (compose12 p.1 b)

theorem certOk_spec (t : OpTree) (ops : List Nat) (c : List (Nat × Nat)) (h : certOk t ops c = true) :
    GroupLaws (allOps ops) := by
  simp only [certOk, Bool.and_eq_true, List.all_eq_true, beq_iff_eq] at h
  obtain ⟨⟨⟨⟨⟨h1, hs⟩, hlen⟩, hg⟩, hw⟩, hc⟩ := h
  have hnd : (allOps ops).Nodup := nodup_of_treeSort (hg ▸ hs) (hg ▸ hlen)
  have hg : ∀ x, x ∈ t.toList ↔ x ∈ allOps ops := fun x => hg ▸ mem_treeSort
  have hw : ∀ x, x ∈ t.toList ↔ x ∈ chainProducts c := fun x => hw ▸ mem_treeSort
  refine ⟨h1, hnd, Generated.closed (S := c.map (·.1)) ?_ ?_⟩
  · exact fun g hg' => .of_mem_chainProducts c (fun p hp => List.mem_map_of_mem hp) g ((hw g).mp ((hg g).mpr hg'))
  · intro s hs g hg'
    obtain ⟨p, hp, rfl⟩ := List.mem_map.mp hs
    exact (hg _).mp (t.mem_sound _ (hc p hp g hg'))

def certsOk : List (OpTree × List Nat) → List (List (Nat × Nat)) → Bool
  | [], [] => true
  | (t, ops) :: ps, c :: cs => certOk t ops c && certsOk ps cs
  | _, _ => false

theorem certsOk_spec : ∀ (ps : List (OpTree × List Nat)) (cs : List (List (Nat × Nat))),
    certsOk ps cs = true → ∀ p ∈ ps, GroupLaws (allOps p.2)
  | (t, ops) :: ps, c :: cs, h, p, hp => by
    simp only [certsOk, Bool.and_eq_true] at h
    rcases List.mem_cons.mp hp with rfl | hp
    · exact certOk_spec t ops c h.1
    · exact certsOk_spec ps cs h.2 p hp

/-! A rotation entry is stored as its residue modulo 12; `toZ` reads it back. -/

def toZ (d : Nat) : Int := if d < 6 then (d : Int) else (d : Int) - 12

theorem rotEntryOk_toZ (d : Nat) (h : rotEntryOk d = true) : toZ d = -1 ∨ toZ d = 0 ∨ toZ d = 1 := by
  simp only [rotEntryOk, Bool.or_eq_true, beq_iff_eq] at h
  rcases h with (h | h) | h <;> subst h <;> simp [toZ]

/-- The residue `n` stands for the integer `z`. The arithmetic modulo 12 of `compose12` and `det12` follows the
integer arithmetic step by step, `11 * m` standing for `-m`, so a proof of `Rep` is written down along the two
expressions; an integer from −6 to 5 is then read back from its residue (`Rep.toZ_eq`). -/
def Rep (n : Nat) (z : Int) : Prop := (n : Int) % 12 = z % 12

section
variable {n m : Nat} {z w : Int}

theorem Rep.residue (d : Nat) : Rep d (toZ d) := by
  unfold Rep toZ; split <;> omega

theorem Rep.nat (t : Nat) : Rep t t := rfl

theorem Rep.add (h₁ : Rep n z) (h₂ : Rep m w) : Rep (n + m) (z + w) := by
  unfold Rep at *; omega

theorem Rep.sub (h₁ : Rep n z) (h₂ : Rep m w) : Rep (n + 11 * m) (z - w) := by
  unfold Rep at *; omega

theorem Rep.mul (h₁ : Rep n z) (h₂ : Rep m w) : Rep (n * m) (z * w) := by
  unfold Rep at *; rw [Int.natCast_mul, Int.mul_emod, h₁, h₂, ← Int.mul_emod]

theorem Rep.mod (h : Rep n z) : Rep (n % 12) z := by
  unfold Rep at *; omega

theorem Rep.toZ_eq (h : Rep n z) (hn : n < 12) (hz : -6 ≤ z ∧ z < 6) : toZ n = z := by
  unfold Rep toZ at *; split <;> omega

theorem Rep.unit (h : Rep n z) (hn : n = 1 ∨ n = 11) (hz : -6 ≤ z ∧ z ≤ 6) : z = 1 ∨ z = -1 := by
  unfold Rep at h; omega

end

theorem unit_mul_bound {x y m : Int} (hx : x = -1 ∨ x = 0 ∨ x = 1) (hy : -m ≤ y ∧ y ≤ m) :
    -m ≤ x * y ∧ x * y ≤ m := by
  rcases hx with rfl | rfl | rfl <;> omega

theorem rotEntryOk_bound (d : Nat) (h : rotEntryOk d = true) : -1 ≤ toZ d ∧ toZ d ≤ 1 := by
  have := rotEntryOk_toZ d h; omega

/-- a row·column product of entries in {−1,0,1}: the residue stored by `compose12` is the residue of the
integer product, and the integer product lies in [−3,3] where residues modulo 12 are unique -/
theorem dot_residue (a1 a2 a3 b1 b2 b3 : Nat)
    (ha1 : rotEntryOk a1 = true) (ha2 : rotEntryOk a2 = true) (ha3 : rotEntryOk a3 = true)
    (hb1 : rotEntryOk b1 = true) (hb2 : rotEntryOk b2 = true) (hb3 : rotEntryOk b3 = true) :
    toZ ((a1 * b1 + a2 * b2 + a3 * b3) % 12) = toZ a1 * toZ b1 + toZ a2 * toZ b2 + toZ a3 * toZ b3 := by
  have := unit_mul_bound (rotEntryOk_toZ a1 ha1) (rotEntryOk_bound b1 hb1)
  have := unit_mul_bound (rotEntryOk_toZ a2 ha2) (rotEntryOk_bound b2 hb2)
  have := unit_mul_bound (rotEntryOk_toZ a3 ha3) (rotEntryOk_bound b3 hb3)
  exact ((((Rep.residue a1).mul (.residue b1)).add ((Rep.residue a2).mul (.residue b2))).add
    ((Rep.residue a3).mul (.residue b3))).mod.toZ_eq
    (Nat.mod_lt _ (by decide)) (by omega)

theorem translation_residue (a1 a2 a3 t1 t2 t3 s : Nat) :
    (((a1 * t1 + a2 * t2 + a3 * t3 + s) % 12 : Nat) : Int) =
      (toZ a1 * t1 + toZ a2 * t2 + toZ a3 * t3 + s) % 12 := by
  have := ((((Rep.residue a1).mul (.nat t1)).add ((Rep.residue a2).mul (.nat t2))).add ((Rep.residue a3).mul (.nat t3))).add
    (.nat s)
  unfold Rep at this
  omega

end PdbModel
