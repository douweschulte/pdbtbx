/-
A printed PDB line (`PdbWrite.lean`) as the field lexers (`PdbLex.lean`) see it.  In a text of one-byte characters
(`Ascii`) byte columns are character positions, so the range a field lexer cuts out of such a line is the cell that was
written there (`getBytes_cell`, `fieldW_cell`); the numbers the writer prints are such texts; a line is the concatenation
of its cells, padded to 70 columns unless the level is loose (`getLine_cons`, `getLine_append`, `printLine_eq`), so any
cell of any printed line is read back by any field lexer as the trimmed cell (`fieldW_getLine`).
-/
import PdbModel.PdbWrite
import PdbModel.PdbLex
import PdbModel.Lemmas.Digits
namespace PdbModel

def Ascii (l : List Char) : Prop := ∀ c ∈ l, utf8Len c = 1

instance (l : List Char) : Decidable (Ascii l) :=
  decidable_of_iff (l.all fun c => utf8Len c == 1) (by simp [Ascii])

theorem ascii_append {a b : List Char} : Ascii (a ++ b) ↔ Ascii a ∧ Ascii b := by
  simp only [Ascii, List.mem_append, or_imp, forall_and]

theorem utf8Len_pos (c : Char) : 1 ≤ utf8Len c := by
  unfold utf8Len
  simp only
  split
  · exact Nat.le_refl 1
  · split
    · decide
    · split <;> decide

theorem byteLen_ge_length (l : List Char) : l.length ≤ byteLen l := by
  unfold byteLen
  induction l with
  | nil => exact Nat.le_refl 0
  | cons c r ih =>
    rw [List.map_cons, List.sum_cons, List.length_cons]
    have := utf8Len_pos c
    omega

theorem dropBytes_ascii (pre rest : List Char) (h : Ascii pre) : dropBytes (pre ++ rest) pre.length = some rest := by
  induction pre with
  | nil => cases rest <;> rfl
  | cons c r ih =>
    obtain ⟨hc, hr⟩ := List.forall_mem_cons.mp h
    rw [List.cons_append, List.length_cons, dropBytes, hc, if_pos (Nat.le_add_left 1 _), Nat.add_sub_cancel]
    exact ih hr

theorem takeBytes_ascii (c post : List Char) (h : Ascii c) : takeBytes (c ++ post) c.length = some c := by
  induction c with
  | nil => cases post <;> rfl
  | cons x r ih =>
    obtain ⟨hx, hr⟩ := List.forall_mem_cons.mp h
    rw [List.cons_append, List.length_cons, takeBytes, hx, if_pos (Nat.le_add_left 1 _), Nat.add_sub_cancel, ih hr]
    rfl

theorem getBytes_cell (pre c post : List Char) (hp : Ascii pre) (hc : Ascii c) :
    getBytes (pre ++ c ++ post) pre.length (pre.length + c.length) = some c := by
  unfold getBytes
  rw [if_pos (by omega), List.append_assoc, dropBytes_ascii pre (c ++ post) hp]
  simp only [Option.bind_some, Nat.add_sub_cancel_left]
  exact takeBytes_ascii c post hc

theorem fieldW_cell {α : Type} (p : List Char → Option α) (dflt : α) (ln : Nat) (pre c post : List Char)
    (hp : Ascii pre) (hc : Ascii c) (v : α) (hv : p (trim c) = some v) :
    fieldW p dflt ln (pre ++ c ++ post) pre.length (pre.length + c.length) = (v, []) := by
  unfold fieldW
  have hlen : ¬ byteLen (pre ++ c ++ post) < pre.length + c.length := by
    have := byteLen_ge_length (pre ++ c ++ post)
    simp only [List.length_append] at this
    omega
  rw [if_neg hlen, getBytes_cell pre c post hp hc]
  simp only [Option.bind_some, hv]

theorem ascii_of_small (l : List Char) (h : ∀ c ∈ l, c.toNat < 128) : Ascii l := by
  intro c hc
  have := h c hc
  unfold utf8Len
  simp only
  rw [if_pos this]

theorem ascii_of_numChar {l : List Char} (h : ∀ c ∈ l, numChar c = true) : Ascii l :=
  fun c hc => (numChar_facts (h c hc)).1

theorem ascii_natDigits (n : Nat) : Ascii (natDigits n) := ascii_of_numChar (numChar_natDigits n)

theorem ascii_intText (i : Int) : Ascii (intText i) := ascii_of_numChar (numChar_intText i)

theorem ascii_replicate (k : Nat) (c : Char) (h : utf8Len c = 1) : Ascii (List.replicate k c) := by
  intro x hx
  rw [(List.mem_replicate.mp hx).2]
  exact h

/-- `format!("{:W.D}", v)` with `D > 0`: blanks, then the decimal `[-] digits . D digits` of the rounded magnitude -/
theorem fmtFixed_decimal (v : Int) (width dec : Nat) (hd : 1 ≤ dec) :
    let q : Nat := (v.natAbs + 10 ^ (6 - dec) / 2) / 10 ^ (6 - dec)
    ∃ k fpd, fpd.length = dec ∧ fpd.all isDigit = true ∧ digitsVal fpd = q % 10 ^ dec ∧
      fmtFixed v width dec = List.replicate k ' ' ++ signed (decide (v < 0)) (natDigits (q / 10 ^ dec) ++ '.' :: fpd) := by
  intro q
  obtain ⟨h1, h2, h3⟩ := zeroPadded_spec (q % 10 ^ dec) dec hd (Nat.mod_lt _ (Nat.pow_pos (by decide)))
  unfold fmtFixed signed
  simp only [show ¬ dec = 0 by omega, if_false, decide_eq_true_eq]
  exact ⟨_, _, h1, h2, h3, rfl⟩

theorem ascii_fmtFixed (v : Int) (w d : Nat) : Ascii (fmtFixed v w d) := by
  rcases Nat.eq_zero_or_pos d with rfl | hd
  · unfold fmtFixed
    refine ascii_append.mpr ⟨ascii_replicate _ ' ' rfl, ?_⟩
    simp only [if_true, List.append_nil]
    split
    · exact List.forall_mem_cons.mpr ⟨rfl, ascii_natDigits _⟩
    · exact ascii_natDigits _
  · obtain ⟨k, fpd, _, hf, _, htext⟩ := fmtFixed_decimal v w d hd
    rw [htext]
    exact ascii_append.mpr ⟨ascii_replicate _ ' ' rfl,
      ascii_of_numChar (numChar_signed (numChar_decimal (natDigits_spec _).2.1 hf))⟩

theorem ascii_S (s : String) (h : Ascii s.toList) : Ascii (S s) := h

theorem cell_zero (t : List Char) : cell 0 t = t := by simp [cell]

/-- a cell of positive width is some text taken from the given one (a lone `0` for a number that is zero),
padded with blanks to the width -/
theorem cell_shape (w : Nat) (t : List Char) (hw : 0 < w) :
    ∃ s, cell w t = s ++ List.replicate (w - s.length) ' ' ∧ s.length ≤ w ∧ ∀ c ∈ s, c ∈ t ∨ c = '0' := by
  unfold cell
  rw [if_neg (by omega)]
  simp only
  have hc : (t.drop (t.length - min w t.length)).length ≤ w := by simp only [List.length_drop]; omega
  have hmem : ∀ c ∈ t.drop (t.length - min w t.length), c ∈ t := fun c => List.mem_of_mem_drop
  generalize t.drop (t.length - min w t.length) = c at hc hmem
  have hsub : (if c.all isDigit then c.dropWhile (· == '0') else c).Sublist c := by
    split
    · exact List.dropWhile_sublist _
    · exact List.Sublist.refl c
  generalize (if c.all isDigit then c.dropWhile (· == '0') else c) = s at hsub
  split
  · exact ⟨['0'], rfl, hw, fun c hc => Or.inr (List.mem_singleton.mp hc)⟩
  · exact ⟨s, rfl, Nat.le_trans hsub.length_le hc, fun x hx => Or.inl (hmem x (hsub.subset hx))⟩

theorem cell_length (w : Nat) (t : List Char) (hw : 0 < w) : (cell w t).length = w := by
  obtain ⟨s, hs, hl, _⟩ := cell_shape w t hw
  rw [hs, List.length_append, List.length_replicate]
  omega

theorem cell_fits (w : Nat) (t : List Char) (hw : 0 < w) (hl : t.length ≤ w) :
    cell w t =
      if !t.isEmpty && (if t.all isDigit then t.dropWhile (· == '0') else t).isEmpty then '0' :: List.replicate (w - 1) ' '
      else (if t.all isDigit then t.dropWhile (· == '0') else t) ++
        List.replicate (w - (if t.all isDigit then t.dropWhile (· == '0') else t).length) ' ' := by
  unfold cell
  rw [if_neg (by omega), show t.length - min w t.length = 0 by omega, List.drop_zero]

theorem getLine_cons (f : Nat × List Char) (fs : List (Nat × List Char)) : getLine (f :: fs) = cell f.1 f.2 ++ getLine fs :=
  List.flatMap_cons ..

theorem getLine_append (a b : List (Nat × List Char)) : getLine (a ++ b) = getLine a ++ getLine b :=
  List.flatMap_append ..

theorem printLine_eq (lvl : Strictness) (fields : List (Nat × List Char)) :
    printLine lvl fields =
      getLine fields ++ List.replicate (if lvl != .loose then 70 - (getLine fields).length else 0) ' ' := by
  unfold printLine
  simp only
  by_cases h : (getLine fields).length < 70
  · rw [decide_eq_true h, Bool.and_true]
    split
    · rfl
    · exact (List.append_nil _).symm
  · -- a full line gets no padding at any level
    rw [decide_eq_false h, Bool.and_false, if_neg Bool.false_ne_true, Nat.sub_eq_zero_of_le (Nat.not_lt.mp h), ite_self]
    exact (List.append_nil _).symm

theorem ascii_cell (w : Nat) (t : List Char) (h : Ascii t) : Ascii (cell w t) := by
  rcases Nat.eq_zero_or_pos w with rfl | hw
  · rwa [cell_zero]
  · obtain ⟨s, hs, _, hmem⟩ := cell_shape w t hw
    rw [hs]
    refine ascii_append.mpr ⟨fun c hc => ?_, ascii_replicate _ ' ' rfl⟩
    rcases hmem c hc with hc | rfl
    · exact h c hc
    · rfl

/-- the number of characters a cell takes -/
def fieldWidth (f : Nat × List Char) : Nat := if f.1 = 0 then f.2.length else f.1

theorem cell_length_eq_fieldWidth (f : Nat × List Char) : (cell f.1 f.2).length = fieldWidth f := by
  unfold fieldWidth
  split
  · next h => rw [h, cell_zero]
  · exact cell_length _ _ (by omega)

theorem length_getLine (fields : List (Nat × List Char)) : (getLine fields).length = (fields.map fieldWidth).sum := by
  induction fields with
  | nil => rfl
  | cons f fs ih => rw [getLine_cons, List.length_append, cell_length_eq_fieldWidth, ih, List.map_cons, List.sum_cons]

theorem ascii_getLine (fields : List (Nat × List Char)) (h : ∀ f ∈ fields, Ascii f.2) : Ascii (getLine fields) := by
  induction fields with
  | nil => intro c hc; cases hc
  | cons f fs ih =>
    obtain ⟨hf, hfs⟩ := List.forall_mem_cons.mp h
    rw [getLine_cons]
    exact ascii_append.mpr ⟨ascii_cell _ _ hf, ih hfs⟩

theorem getLine_splice (pre fs post : List (Nat × List Char)) :
    getLine (pre ++ (0, getLine fs) :: post) = getLine (pre ++ fs ++ post) := by
  rw [getLine_append, getLine_cons, cell_zero, getLine_append, getLine_append, List.append_assoc]

/-- the widths are passed as a list of their own (`ws`) so that the columns can be computed from literals -/
theorem fieldW_getLine_prefix {α : Type} (p : List Char → Option α) (dflt : α) (ln : Nat)
    {fields : List (Nat × List Char)} (pad : List Char) (k : Nat) {f : Nat × List Char} {c rest : List Char}
    {ws : List Nat} (a b : Nat) {v : α} (hk : fields[k]? = some f) (hc : cell f.1 f.2 = c ++ rest)
    (hws : fields.map fieldWidth = ws) (ha : (ws.take k).sum = a) (hb : a + c.length = b)
    (hpre : ∀ g ∈ fields.take k, Ascii g.2) (hca : Ascii c) (hv : p (trim c) = some v) :
    fieldW p dflt ln (getLine fields ++ pad) a b = (v, []) := by
  have hsplit := split_at_mid fields k f hk
  have hline : getLine fields ++ pad = getLine (fields.take k) ++ c ++ (rest ++ getLine (fields.drop (k + 1)) ++ pad) := by
    conv => lhs; rw [hsplit, getLine_append, getLine_cons, hc]
    simp only [List.append_assoc]
  rw [hline, ← hb, ← ha, ← hws, ← List.map_take, ← length_getLine]
  exact fieldW_cell p dflt ln _ c _ (ascii_getLine _ hpre) hca v hv

theorem fieldW_getLine {α : Type} (p : List Char → Option α) (dflt : α) (ln : Nat)
    {fields : List (Nat × List Char)} (pad : List Char) (k : Nat) {f : Nat × List Char} {ws : List Nat} (a b : Nat) {v : α}
    (hk : fields[k]? = some f) (hws : fields.map fieldWidth = ws) (ha : (ws.take k).sum = a) (hb : a + fieldWidth f = b)
    (hasc : ∀ g ∈ fields.take (k + 1), Ascii g.2) (hv : p (trim (cell f.1 f.2)) = some v) :
    fieldW p dflt ln (getLine fields ++ pad) a b = (v, []) := by
  have hf : f ∈ fields.take (k + 1) := List.mem_of_getElem? ((List.getElem?_take_of_lt (Nat.lt_succ_self k)).trans hk)
  exact fieldW_getLine_prefix p dflt ln pad k a b hk (List.append_nil _).symm hws ha
    (by rw [cell_length_eq_fieldWidth]; exact hb) (fun g hg => hasc g (List.take_subset_take_left _ (Nat.le_succ k) hg))
    (ascii_cell _ _ (hasc f hf)) hv

end PdbModel
