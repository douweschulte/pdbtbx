/-
Bisection: on a list that the probe cuts into "before", "at" and "beyond" the target (`Good`), `bsearch` finds what the
linear scan finds; the level lemma carries this through one level of the binary atom lookup.
-/
import PdbModel.Sort
import PdbModel.Lemmas.List
namespace PdbModel

/-- the list is partitioned `lt* eq? gt*` by the probe: once an element is not before the target, every
later one is after it -/
def Good {α} (probe : α → Ordering) (l : List α) : Prop :=
  l.Pairwise fun a b => probe a ≠ .lt → probe b = .gt

theorem bsearch_eq_find {α} (probe : α → Ordering) (fuel : Nat) (l : List α)
    (hg : Good probe l) (hf : l.length ≤ fuel) :
    bsearch probe fuel l = l.find? (fun x => probe x == .eq) := by
  induction fuel generalizing l with
  | zero => rw [List.eq_nil_of_length_eq_zero (Nat.le_zero.mp hf)]; rfl
  | succ fuel ih =>
    unfold bsearch
    cases hmid : l[l.length / 2]? with
    | none =>
      have : l.length ≤ l.length / 2 := List.getElem?_eq_none_iff.mp hmid
      rw [List.eq_nil_of_length_eq_zero (by omega : l.length = 0)]; rfl
    | some x =>
      have hlen := (List.getElem?_eq_some_iff.mp hmid).1
      have hsplit := split_at_mid l _ x hmid
      rw [Good, hsplit, List.pairwise_append, List.pairwise_cons] at hg
      obtain ⟨hA, ⟨hxB, hB⟩, hAx⟩ := hg
      -- nothing left of the middle is the target unless the middle is already beyond it
      have hleft : probe x ≠ .gt → (l.take (l.length / 2)).find? (fun x => probe x == .eq) = none := by
        intro hx
        rw [List.find?_eq_none]
        intro a ha he
        exact hx (hAx a ha x (List.mem_cons_self ..) (by rw [beq_iff_eq.mp he]; decide))
      conv => rhs; rw [hsplit, List.find?_append, List.find?_cons]
      dsimp only
      cases hp : probe x with
      | eq => rw [hleft (by rw [hp]; decide)]; rfl
      | lt =>
        rw [hleft (by rw [hp]; decide)]
        exact ih _ hB (by rw [List.length_drop]; omega)
      | gt =>
        have hright : (l.drop (l.length / 2 + 1)).find? (fun x => probe x == .eq) = none := by
          rw [List.find?_eq_none]
          intro b hb he
          have := hxB b hb (by rw [hp]; decide)
          rw [beq_iff_eq.mp he] at this; cases this
        rw [hright]
        exact (ih _ hA (by rw [List.length_take]; omega)).trans (Option.or_none).symm

theorem bsearch_bind_eq_findSome {α β} (probe : α → Ordering) (scan : α → Option β) (l : List α)
    (hg : Good probe l) (hs : ∀ x ∈ l, probe x ≠ .eq → scan x = none) :
    (bsearch probe l.length l).bind scan = l.findSome? scan := by
  rw [bsearch_eq_find probe _ l hg (Nat.le_refl _)]
  induction l with
  | nil => rfl
  | cons x xs ih =>
    obtain ⟨hx, hxs⟩ := List.pairwise_cons.mp hg
    have ih' := ih hxs fun y hy => hs y (List.mem_cons_of_mem _ hy)
    rw [List.find?_cons, List.findSome?_cons]
    by_cases hp : probe x = .eq
    · rw [hp]
      simp only [beq_self_eq_true, Option.bind_some]
      cases scan x with
      | some _ => rfl
      | none =>
        symm
        rw [List.findSome?_eq_none_iff]
        intro y hy
        exact hs y (List.mem_cons_of_mem _ hy) (by rw [hx y hy (by rw [hp]; decide)]; decide)
    · rw [hs x (List.mem_cons_self ..) hp, beq_eq_false_iff_ne.mpr hp]
      exact ih'

theorem ends_of_sorted (l : List Atom) (hne : l ≠ []) (h : l.Pairwise (fun a b => a.serial < b.serial)) :
    ∀ a ∈ l, (l.head hne).serial ≤ a.serial ∧ a.serial ≤ (l.getLast hne).serial := by
  intro a ha
  constructor
  · obtain ⟨b, t, rfl⟩ := List.exists_cons_of_ne_nil hne
    rcases List.mem_cons.mp ha with rfl | ha
    · exact Nat.le_refl _
    · exact Nat.le_of_lt ((List.pairwise_cons.mp h).1 a ha)
  · rw [← List.dropLast_concat_getLast hne, List.pairwise_append] at h
    rw [← List.dropLast_concat_getLast hne, List.mem_append, List.mem_singleton] at ha
    rcases ha with ha | rfl
    · exact Nat.le_of_lt (h.2.2 a ha _ (List.mem_singleton_self _))
    · exact Nat.le_refl _

section Level
variable {α : Type} (atomsOf : α → List Atom)

/-- probe of the child loop of `Chain::binary_find_atom` / `Model::binary_find_atom` -/
def probeL (serial : Nat) (c : α) : Ordering := (rangeProbe serial (atomsOf c)).getD .eq

theorem probeL_eq (serial : Nat) (r : α) (hne : atomsOf r ≠ []) :
    probeL atomsOf serial r =
      if ((atomsOf r).head hne).serial ≤ serial ∧ serial ≤ ((atomsOf r).getLast hne).serial then .eq
      else if serial < ((atomsOf r).head hne).serial then .gt else .lt := by
  unfold probeL rangeProbe
  rw [List.head?_eq_some_head hne, List.getLast?_eq_some_getLast hne]
  dsimp only
  split
  · rfl
  · split <;> rfl

theorem probeL_good (serial : Nat) (rs : List α) (hne : ∀ r ∈ rs, atomsOf r ≠ [])
    (hin : ∀ r ∈ rs, (atomsOf r).Pairwise (fun a b => a.serial < b.serial))
    (hcross : rs.Pairwise (fun r1 r2 => ∀ x ∈ atomsOf r1, ∀ y ∈ atomsOf r2, x.serial < y.serial)) :
    Good (probeL atomsOf serial) rs := by
  refine hcross.imp_of_mem ?_
  intro r1 r2 m1 m2 hx h1
  have hends := (ends_of_sorted _ (hne r1 m1) (hin r1 m1) _ (List.getLast_mem (hne r1 m1))).1
  have hlt := hx _ (List.getLast_mem (hne r1 m1)) _ (List.head_mem (hne r2 m2))
  rw [probeL_eq atomsOf serial r1 (hne r1 m1)] at h1
  rw [probeL_eq atomsOf serial r2 (hne r2 m2)]
  by_cases hle : serial ≤ ((atomsOf r1).getLast (hne r1 m1)).serial
  · rw [if_neg (by omega), if_pos (by omega)]
  · exact absurd (by rw [if_neg (by omega), if_neg (by omega)]) h1

theorem probeL_no_atom (serial : Nat) (r : α) (hne : atomsOf r ≠ [])
    (hin : (atomsOf r).Pairwise (fun a b => a.serial < b.serial)) (h : probeL atomsOf serial r ≠ .eq) :
    ∀ a ∈ atomsOf r, a.serial ≠ serial := by
  intro a ha he
  rw [probeL_eq atomsOf serial r hne] at h
  have := ends_of_sorted _ hne hin a ha
  exact h (if_pos (by omega))

/-- **one level of the lookup**: bisecting for the child whose serial range contains the number and then
asking that child gives what asking every child in turn gives — in a list of children none of which is empty, with
serial numbers increasing inside each and from each to the next, and provided a child without an atom of that number
answers `none` -/
theorem level_lookup {β : Type} (scan : α → Option β) (serial : Nat) (rs : List α)
    (hne : ∀ r ∈ rs, atomsOf r ≠ [])
    (hin : ∀ r ∈ rs, (atomsOf r).Pairwise (fun a b => a.serial < b.serial))
    (hcross : rs.Pairwise (fun r1 r2 => ∀ x ∈ atomsOf r1, ∀ y ∈ atomsOf r2, x.serial < y.serial))
    (hscan : ∀ r ∈ rs, (∀ a ∈ atomsOf r, a.serial ≠ serial) → scan r = none) :
    (bsearch (probeL atomsOf serial) rs.length rs).bind scan = rs.findSome? scan :=
  bsearch_bind_eq_findSome _ scan rs (probeL_good atomsOf serial rs hne hin hcross) fun r mr hp =>
    hscan r mr (probeL_no_atom atomsOf serial r (hne r mr) (hin r mr) hp)

end Level

end PdbModel
