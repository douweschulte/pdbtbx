/-
The CIF lexer (`Cif.lean`) from outside.  Padding (white space and complete comments, `Pad`) and how `trimCW` passes
over a comment; what a single word is lexed to (`classify`, `Word`, `Cell`); where an identifier ends and whether it
begins a reserved word; `parseValue` at an ordinary character and `parseEnclosed` at a closed quotation; the unfolding
equations of the value loop `collectValues` and where it stops.
-/
import PdbModel.Cif
import PdbModel.Lemmas.List
namespace PdbModel

/-- padding: any sequence of white-space characters and complete `#` comments -/
inductive Pad : List Char → Prop where
  | nil : Pad []
  | ws (c : Char) (p : List Char) : isCifWs c = true → Pad p → Pad (c :: p)
  | comment (body : List Char) (nl : Char) (p : List Char) :
      (∀ c ∈ body, (c == '\n' || c == '\r') = false) → (nl == '\n' || nl == '\r') = true → Pad p →
      Pad ('#' :: (body ++ nl :: p))

theorem trimCW_comment (body : List Char) (nl : Char) (rest : List Char)
    (hb : ∀ c ∈ body, (c == '\n' || c == '\r') = false) (hn : (nl == '\n' || nl == '\r') = true) :
    trimCW true (body ++ nl :: rest) = trimCW false rest := by
  induction body with
  | nil => simp [trimCW, hn]
  | cons c r ih =>
    have hc := hb c (by simp)
    simp only [List.cons_append, trimCW, hc, Bool.false_eq_true, if_false]
    exact ih (fun x hx => hb x (by simp [hx]))

theorem pad_replicate (k : Nat) : Pad (List.replicate k ' ') := by
  induction k with
  | zero => exact Pad.nil
  | succ n ih => exact Pad.ws ' ' _ (by decide) ih

/-- what the lexer makes of a single word: a number when it parses as one, the text otherwise -/
def classify (t : List Char) : CifValue :=
  if t = ['.'] then .inapplicable
  else if t = ['?'] then .unknown
  else match parseNumeric t with
    | some v => v
    | none => .text t

/-- a word as the writer puts it into a table cell: starts with an ordinary character other than `?` and `.`,
contains no white space and does not begin like a reserved word -/
def Word (t : List Char) : Prop :=
  (∃ c r, t = c :: r ∧ isOrdinary c = true ∧ c ≠ '.' ∧ c ≠ '?') ∧ (∀ c ∈ t, isAsciiWs c = false) ∧
  reservedStart t = false

/-- what the writer puts into a table cell: a word, or the `.` / `?` that stand for "no value" -/
def Cell (t : List Char) : Prop := Word t ∨ t = ['.'] ∨ t = ['?']

/-- identifiers the property quantifies over: CIF bare words that are not numbers or reserved words -/
def BareWord (t : List Char) : Prop :=
  (∃ c r, t = c :: r ∧ isOrdinary c = true ∧ c ≠ '.' ∧ c ≠ '?') ∧ (∀ c ∈ t, isAsciiWs c = false) ∧
  reservedStart t = false ∧ parseNumeric t = none

theorem BareWord.word {t : List Char} (h : BareWord t) : Word t := ⟨h.1, h.2.1, h.2.2.1⟩

theorem classify_of_numeric {t : List Char} {v : CifValue} (h : parseNumeric t = some v) : classify t = v := by
  unfold classify
  rw [if_neg (by rintro rfl; cases h), if_neg (by rintro rfl; cases h), h]

theorem classify_word {t : List Char} (ht : Word t) :
    classify t = match parseNumeric t with | some v => v | none => .text t := by
  obtain ⟨⟨c, r, rfl, _, hdot, hq⟩, _⟩ := ht
  unfold classify
  rw [if_neg (fun h => hdot (List.cons.inj h).1), if_neg (fun h => hq (List.cons.inj h).1)]

theorem identOf_append_ws (t rest : List Char) (w : Char) (hw : isAsciiWs w = true)
    (ht : ∀ c ∈ t, isAsciiWs c = false) :
    identOf (t ++ w :: rest) = t ∧ afterIdent (t ++ w :: rest) = w :: rest :=
  span_prefix (fun c => !isAsciiWs c) t (w :: rest) (fun c hc => by rw [ht c hc]; rfl)
    (fun x hx => by cases hx; rw [hw]; rfl)

theorem startWith_isSome (pat s : List Char) : (startWith pat s).isSome = true ↔ pat <+: s.map lowerAscii := by
  unfold startWith
  rw [List.prefix_iff_eq_take, ← List.map_take]
  split
  · next h => exact ⟨fun _ => (eq_of_beq h).symm, fun _ => rfl⟩
  · next h => exact ⟨nofun, fun e => absurd (beq_of_eq e.symm) h⟩

theorem startWith_append_ws (pat t rest : List Char) (w : Char) (hw : isAsciiWs w = true)
    (hp : ∀ p ∈ pat, isAsciiWs p = false) :
    (startWith pat (t ++ w :: rest)).isSome = (startWith pat t).isSome := by
  have hlow : lowerAscii w = w :=
    (by decide : ∀ w ∈ [' ', '\t', '\n', '\r', Char.ofNat 12], lowerAscii w = w) w (asciiWs_mem hw)
  rw [Bool.eq_iff_iff, startWith_isSome, startWith_isSome, List.map_append, List.map_cons, hlow]
  refine ⟨fun h => ?_, fun h => h.trans (List.prefix_append ..)⟩
  -- two prefixes of one list: `pat` is the shorter, or it reaches `w`
  rcases List.prefix_or_prefix_of_prefix h (List.prefix_append ..) with h' | ⟨r, rfl⟩
  · exact h'
  · rw [List.prefix_append_right_inj, List.prefix_cons_iff] at h
    rcases h with rfl | ⟨r', rfl, -⟩
    · rw [List.append_nil]
      exact List.prefix_rfl
    · have := hp w (List.mem_append_right _ (List.mem_cons_self ..))
      rw [hw] at this
      cases this

theorem reservedStart_append_ws (t rest : List Char) (w : Char) (hw : isAsciiWs w = true) :
    reservedStart (t ++ w :: rest) = reservedStart t := by
  unfold reservedStart
  rw [startWith_append_ws _ t rest w hw (by decide), startWith_append_ws _ t rest w hw (by decide),
    startWith_append_ws _ t rest w hw (by decide), startWith_append_ws _ t rest w hw (by decide),
    startWith_append_ws _ t rest w hw (by decide)]

theorem startWith_append (pat t rest : List Char) (hlen : pat.length ≤ t.length) :
    (startWith pat (t ++ rest)).isSome = (startWith pat t).isSome := by
  unfold startWith
  rw [List.take_append_of_le_length hlen]
  split <;> rfl

theorem startWith_head_ne (pat : List Char) (p c : Char) (r : List Char) (hp : pat.head? = some p)
    (h : lowerAscii c ≠ p) : startWith pat (c :: r) = none := by
  refine Option.not_isSome_iff_eq_none.mp fun hs => ?_
  rw [startWith_isSome, List.map_cons, List.prefix_cons_iff] at hs
  rcases hs with rfl | ⟨t, rfl, -⟩
  · cases hp
  · exact h (Option.some.inj hp)

theorem reservedStart_head (c : Char) (r : List Char) (h : lowerAscii c ∉ ['d', 'g', 'l', 's']) :
    reservedStart (c :: r) = false := by
  simp only [List.mem_cons, List.not_mem_nil, or_false, not_or] at h
  unfold reservedStart
  rw [startWith_head_ne _ _ c r rfl h.1, startWith_head_ne _ _ c r rfl h.2.1, startWith_head_ne _ _ c r rfl h.2.2.1,
    startWith_head_ne "save_".toList _ c r rfl h.2.2.2, startWith_head_ne "stop_".toList _ c r rfl h.2.2.2]
  rfl

theorem parseValue_ordinary (c : Char) (r : List Char) (hord : isOrdinary c = true)
    (hres : reservedStart (c :: r) = false) :
    parseValue (c :: r) =
      if c == '.' then
        match parseNumeric (identOf (c :: r)) with
        | some v => .ok (v, afterIdent (c :: r))
        | none => .ok (.inapplicable, r)
      else if c == '?' then .ok (.unknown, r)
      else match parseNumeric (identOf (c :: r)) with
        | some v => .ok (v, afterIdent (c :: r))
        | none => .ok (.text (identOf (c :: r)), afterIdent (c :: r)) := by
  have hne : ∀ x, isOrdinary x = false → (c == x) = false := fun x hx =>
    beq_false_of_ne fun e => Bool.eq_false_iff.mp hx (e ▸ hord)
  have hws : isCifWs c = false := (Bool.or_eq_false_iff.mp (isOrdinary_not_ws c hord)).1
  simp only [parseValue, trimCW, hws, hne '#' rfl, hne '\'' rfl, hne '"' rfl, hne ';' rfl, hres, hord, Bool.or_self,
    Bool.false_eq_true, if_false, if_true]
  rfl

theorem parseEnclosed_closed (pat : Char) (t rest : List Char)
    (h : ∀ c ∈ t, (c == pat || c == '\n' || c == '\r') = false) :
    parseEnclosed pat (t ++ pat :: rest) = some (t, rest) := by
  obtain ⟨ht, hd⟩ := span_prefix (fun c => !(c == pat || c == '\n' || c == '\r')) t (pat :: rest)
    (fun c hc => by rw [h c hc]; rfl) (fun x hx => by cases hx; simp)
  unfold parseEnclosed
  simp only [hd, ht, beq_self_eq_true, if_true]

theorem collectValues_ok {s rest : List Char} {v : CifValue} (h : parseValue s = .ok (v, rest)) :
    collectValues s = (v :: (collectValues rest).1, (collectValues rest).2) := by
  fun_cases collectValues s with
  | case1 v' rest' h' =>
    cases h.symm.trans h'
    rfl
  | case2 e h' => cases h.symm.trans h'

theorem collectValues_err {s : List Char} {e : String} (h : parseValue s = .error e) :
    collectValues s = ([], trimCW false s) := by
  fun_cases collectValues s with
  | case1 v' rest' h' => cases h.symm.trans h'
  | case2 => rfl

/-- the table ends at the first thing that is not a value: here the `#` line the writer prints after the rows,
followed by a reserved word or a tag -/
theorem collectValues_stops (s : List Char) (h : reservedStart (trimCW false s) = true ∨
    (∃ r, trimCW false s = '_' :: r) ∨ trimCW false s = []) :
    collectValues s = ([], trimCW false s) := by
  have : ∃ e, parseValue s = .error e := by
    unfold parseValue
    split
    · exact ⟨_, rfl⟩
    · next c r hc =>
      rw [hc] at h
      rcases h with h | ⟨r', h⟩ | h
      · exact ⟨_, if_pos h⟩
      · cases h
        by_cases hres : reservedStart ('_' :: r) = true
        · exact ⟨_, if_pos hres⟩
        · exact ⟨"Invalid value", (if_neg hres).trans rfl⟩
      · cases h
  obtain ⟨e, he⟩ := this
  exact collectValues_err he

end PdbModel
