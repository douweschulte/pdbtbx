/-
The letter codes of `number_to_base26`: different numbers give different codes, and a code is an identifier that
normalisation leaves as it is.
-/
import PdbModel.Basic
import PdbModel.Lemmas.Trim
namespace PdbModel

/-- value of a little-endian base-26 letter string -/
def decodeRev : List Char → Nat
  | [] => 0
  | c :: cs => c.toNat - 65 + 26 * decodeRev cs

theorem letterVal_alphabetChar (n : Nat) : (alphabetChar n).toNat - 65 = n % 26 := by
  have h : ∀ k : Fin 26, (letters.getD k.val 'A').toNat - 65 = k.val := by decide
  exact h ⟨n % 26, Nat.mod_lt _ (by decide)⟩

theorem decodeRev_base26Rev (fuel n : Nat) (h : n ≤ fuel) : decodeRev (base26Rev fuel n) = n := by
  -- the cases of `base26Rev`: out of fuel, the last letter, a letter and the rest
  fun_induction base26Rev fuel n with
  | case1 | case2 =>
    simp only [decodeRev, letterVal_alphabetChar]
    omega
  | case3 fuel n _ ih =>
    simp only [decodeRev, letterVal_alphabetChar, ih (by omega)]
    omega

theorem numberToBase26_injective (a b : Nat) (h : numberToBase26 a = numberToBase26 b) : a = b := by
  unfold numberToBase26 at h
  have := congrArg decodeRev (List.reverse_inj.mp (String.ofList_injective h))
  rwa [decodeRev_base26Rev a a (Nat.le_refl _), decodeRev_base26Rev b b (Nat.le_refl _)] at this

/-- a character that identifier normalisation neither strips, rejects nor changes -/
abbrev Plain (c : Char) : Prop := isRustWs c = false ∧ checkChar c = true ∧ upperAscii c = c

theorem alphabetChar_plain (n : Nat) : Plain (alphabetChar n) := by
  have h : ∀ k : Fin 26, Plain (letters.getD k.val 'A') := by decide
  exact h ⟨n % 26, Nat.mod_lt _ (by decide)⟩

theorem base26Rev_plain (fuel n : Nat) : ∀ c ∈ base26Rev fuel n, Plain c := by
  fun_induction base26Rev fuel n with
  | case1 n | case2 _ n => exact List.forall_mem_singleton.mpr (alphabetChar_plain n)
  | case3 _ n _ ih => exact List.forall_mem_cons.mpr ⟨alphabetChar_plain n, ih⟩

theorem base26Rev_ne_nil (fuel n : Nat) : base26Rev fuel n ≠ [] := by
  fun_cases base26Rev fuel n <;> exact List.cons_ne_nil _ _

theorem prepareIdentifier_plain (l : List Char) (hne : l ≠ []) (h : ∀ c ∈ l, Plain c) :
    prepareIdentifierUpper l = some l ∧ prepareIdentifier l = some l := by
  have ht : trim l = l := trim_eq_self (fun c hc => (h c (List.mem_of_mem_head? hc)).1)
    (fun c hc => (h c (List.mem_of_mem_getLast? hc)).1)
  have hp : prepareIdentifier l = some l :=
    prepareIdentifier_eq_some.mpr ⟨List.all_eq_true.mpr fun c hc => (h c hc).2.1, ht.symm ▸ hne, ht⟩
  refine ⟨?_, hp⟩
  unfold prepareIdentifierUpper
  rw [hp, Option.map_some, List.map_congr_left (g := id) fun c hc => (h c hc).2.2, List.map_id]

theorem prepId_base26 (n : Nat) :
    prepIdUpS (numberToBase26 n) = some (numberToBase26 n) ∧ prepIdS (numberToBase26 n) = some (numberToBase26 n) := by
  unfold prepIdUpS prepIdS numberToBase26
  rw [String.toList_ofList]
  obtain ⟨h1, h2⟩ := prepareIdentifier_plain (base26Rev n n).reverse (by simpa using base26Rev_ne_nil n n)
    fun c hc => base26Rev_plain n n c (List.mem_reverse.mp hc)
  rw [h1, h2]
  exact ⟨rfl, rfl⟩

end PdbModel
