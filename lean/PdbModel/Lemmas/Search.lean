/-
Search expressions under Kleene evaluation: `simplify` and `addInfo` keep the value, and on a simplified expression
`complete` is the value without further information.
-/
import PdbModel.Search
namespace PdbModel
variable {T : Type}

@[simp] theorem Tri.and_ff_r (a : Tri) : Tri.and a .ff = .ff := by cases a <;> rfl
@[simp] theorem Tri.or_tt_r (a : Tri) : Tri.or a .tt = .tt := by cases a <;> rfl
@[simp] theorem Tri.and_ff_l (a : Tri) : Tri.and .ff a = .ff := by cases a <;> rfl
@[simp] theorem Tri.or_tt_l (a : Tri) : Tri.or .tt a = .tt := by cases a <;> rfl
@[simp] theorem Tri.ofBool_and (a b : Bool) : Tri.ofBool (a && b) = (Tri.ofBool a).and (Tri.ofBool b) := by cases a <;> cases b <;> rfl
@[simp] theorem Tri.ofBool_or (a b : Bool) : Tri.ofBool (a || b) = (Tri.ofBool a).or (Tri.ofBool b) := by cases a <;> cases b <;> rfl
@[simp] theorem Tri.ofBool_xor (a b : Bool) : Tri.ofBool (a != b) = (Tri.ofBool a).xor (Tri.ofBool b) := by cases a <;> cases b <;> rfl
@[simp] theorem Tri.ofBool_not (a : Bool) : Tri.ofBool (!a) = (Tri.ofBool a).not := by cases a <;> rfl
@[simp] theorem Tri.ofBool_false : Tri.ofBool false = .ff := rfl
@[simp] theorem Tri.ofBool_true : Tri.ofBool true = .tt := rfl

theorem simp1_sound (v : T → Option Bool) (o : Op) (a b : Search T) :
    (Search.simp1 o a b).eval3 v = o.eval (a.eval3 v) (b.eval3 v) := by
  unfold Search.simp1
  split <;> simp [Search.eval3, Op.eval]

theorem simplify_sound (v : T → Option Bool) (s : Search T) :
    s.simplify.eval3 v = s.eval3 v := by
  induction s with
  | ops o a b iha ihb => rw [Search.simplify, simp1_sound, iha, ihb, Search.eval3]
  | not a ih =>
    rw [Search.eval3, ← ih, Search.simplify]
    rcases a.simplify with _ | _ | _ | (_ | _) <;> rfl
  | single t => rfl
  | known b => rfl

theorem addInfo_sound (m v : T → Option Bool) (s : Search T) :
    (s.addInfo m).eval3 v = s.eval3 (orElse m v) := by
  induction s with
  | ops o a b iha ihb =>
    simp only [Search.addInfo, simplify_sound, Search.eval3, iha, ihb]
  | not a ih => simp only [Search.addInfo, simplify_sound, Search.eval3, ih]
  | single t =>
    simp only [Search.addInfo]
    split <;> rename_i h <;> simp [Search.eval3, orElse, h, Tri.ofOpt]
  | known b => simp [Search.addInfo, Search.eval3]

theorem Tri.toOpt_ofOpt (o : Option Bool) : (Tri.ofOpt o).toOpt = o := by
  rcases o with _ | _ | _ <;> rfl

/-- `simp1` looks only at the operator and at whether each side is `known true`, `known false` or something else -/
theorem simp1_complete (o : Op) (a b : Search T) :
    Tri.ofOpt (Search.simp1 o a b).complete = o.eval (Tri.ofOpt a.complete) (Tri.ofOpt b.complete) := by
  cases o <;> rcases a with _ | _ | _ | (_ | _) <;> rcases b with _ | _ | _ | (_ | _) <;> rfl

def Search.isKnown : Search T → Bool | .known _ => true | _ => false

/-- Normal form: what `simplify` returns -/
inductive Normal : Search T → Prop
  | known (b) : Normal (.known b)
  | single (t) : Normal (.single t)
  | not {a} : Normal a → a.isKnown = false → Normal (.not a)
  | ops {o a b} : Normal a → Normal b → Search.simp1 o a b = .ops o a b → Normal (.ops o a b)

theorem normal_eval {s : Search T} (h : Normal s) : s.eval3 noInfo = Tri.ofOpt s.complete := by
  induction h with
  | known b => rfl
  | single t => rfl
  | @not a _ hnk ih =>
    rw [Search.eval3, ih]
    cases a with
    | known b => cases hnk
    | _ => rfl
  | @ops o a b _ _ hs iha ihb => rw [Search.eval3, iha, ihb, ← simp1_complete, hs]

theorem normal_unknown {s : Search T} (h : Normal s) (hk : s.isKnown = false) :
    s.eval3 noInfo = .uu := by
  rw [normal_eval h]
  cases s with
  | known b => cases hk
  | _ => rfl

theorem simp1_cases (o : Op) (a b : Search T) :
    (∃ k, Search.simp1 o a b = .known k) ∨ Search.simp1 o a b = .ops o a b := by
  unfold Search.simp1; split <;> simp

theorem simp1_normal {o : Op} {a b : Search T} (ha : Normal a) (hb : Normal b) :
    Normal (Search.simp1 o a b) := by
  rcases simp1_cases o a b with ⟨k, hk⟩ | h
  · rw [hk]; exact .known k
  · rw [h]; exact .ops ha hb h

theorem simplify_normal (s : Search T) : Normal s.simplify := by
  induction s with
  | ops o a b iha ihb => exact simp1_normal iha ihb
  | not a ih =>
    rw [Search.simplify]
    cases h : a.simplify with
    | known b => exact .known _
    | _ => exact .not (h ▸ ih) rfl
  | single t => exact .single t
  | known b => exact .known b

theorem addInfo_normal (m : T → Option Bool) (s : Search T) : Normal (s.addInfo m) := by
  cases s with
  | ops o a b => exact simplify_normal _
  | not a => exact simplify_normal _
  | single t => simp only [Search.addInfo]; split <;> constructor
  | known b => exact .known b

theorem orElse_noInfo (m : T → Option Bool) : orElse m (noInfo (T := T)) = m := by
  funext t; simp [orElse, noInfo]

theorem complete_eq_eval3 (m : T → Option Bool) (s : Search T) :
    (s.addInfo m).complete = (s.eval3 m).toOpt := by
  rw [← orElse_noInfo m, ← addInfo_sound, orElse_noInfo, normal_eval (addInfo_normal m s), Tri.toOpt_ofOpt]

/-- the filter predicate of `Conformer::find`, in terms of the Kleene value -/
theorem complete_getD (m : T → Option Bool) (s : Search T) :
    ((s.addInfo m).complete).getD true = selected m s := by
  rw [complete_eq_eval3]; unfold selected
  cases s.eval3 m <;> rfl

theorem isKnownFalse_eval (s : Search T) (h : s.isKnownFalse = true) (v : T → Option Bool) :
    s.eval3 v = .ff := by
  match s, h with
  | .known false, _ => rfl

end PdbModel
