/-
The row parser of the atom_site loop (`atomRowCore` in `CifRead.lean`): what a row does, stated once.

`errors` and `exact` of the parser state are a log: every stage appends to it and none reads it.  For the stages that do
nothing else (`reqCol`, `rowResNum`, `rowChain`, `rowCells`, `rowOptional`) `Stage` says so, together with what is known
of the value that comes back, and one rule carries it through the `bindS` chain of `rowCells`.  On top of these:
`atomRowCore_step`, the outcomes of a row (skipped by only-first-model, reported, the model made sure of, the atom
placed) each with the state afterwards, and `atomRowCore_logBlind`, a row does not read the log.  What C02 and C15 say
about a row and the models, the atoms or the log is read off these two and the three equations of the only-first-model
gate; the statements about single cells (a mandatory cell without a value, the author's ids) evaluate the cell stages
directly.
-/
import PdbModel.CifRead
import PdbModel.Lemmas.Trim
namespace PdbModel

abbrev AState.relog (s : AState) (e : List CDiag) (x : Bool) : AState := { s with errors := e, exact := x }

/-- `f` only appends to the log: whatever the log of `s`, it returns one value `a` and appends one `e`, `x`;
`Q` says what is known of the value and of the diagnostics -/
def Stage {α : Type} (f : AState → α × AState) (Q : α → List CDiag → Prop) : Prop :=
  ∀ s : AState, ∃ a e x, Q a e ∧ ∀ e0 x0, f (s.relog e0 x0) = (a, s.relog (e0 ++ e) (x0 && x))

/-- for a stage that may end the row: the value is as `Q` says, or there is a new diagnostic -/
def orLogged {α : Type} (Q : α → Prop) : Option α → List CDiag → Prop
  | some a, _ => Q a
  | none, e => e ≠ []

theorem orLogged.append {α : Type} {Q : α → Prop} {a : Option α} {e' : List CDiag} (e : List CDiag)
    (h : orLogged Q a e') : orLogged Q a (e ++ e') := by
  cases a with
  | none => exact List.append_ne_nil_of_right_ne_nil _ h
  | some a => exact h

theorem Stage.pure {α : Type} {Q : α → List CDiag → Prop} (a : α) (h : Q a []) : Stage (fun s => (a, s)) Q :=
  fun _ => ⟨a, [], true, h, fun e0 x0 => by rw [List.append_nil, Bool.and_true]⟩

theorem Stage.value {α : Type} {f : AState → α × AState} {Q : α → Prop} (h : Stage f fun a _ => Q a) (s : AState) :
    Q (f s).1 := by
  obtain ⟨a, e, x, hQ, hf⟩ := h s
  exact (hf s.errors s.exact : f s = _) ▸ hQ

theorem Stage.fst_relog {α : Type} {f : AState → α × AState} {Q : α → List CDiag → Prop} (h : Stage f Q) (s : AState)
    (e0 : List CDiag) (x0 : Bool) : (f (s.relog e0 x0)).1 = (f s).1 := by
  obtain ⟨a, e, x, -, hf⟩ := h s
  rw [hf e0 x0, show f s = _ from hf s.errors s.exact]

/-- it is enough to compare with the run on the empty log -/
theorem Stage.intro {α : Type} {f : AState → α × AState} {Q : α → List CDiag → Prop}
    (hQ : ∀ s : AState, Q (f s).1 (f (s.relog [] true)).2.errors)
    (h : ∀ (s : AState) e0 x0, f (s.relog e0 x0) =
      ((f s).1, s.relog (e0 ++ (f (s.relog [] true)).2.errors) (x0 && (f (s.relog [] true)).2.exact))) :
    Stage f Q :=
  fun s => ⟨_, _, _, hQ s, h s⟩

theorem Stage.bind {α β : Type} {f : AState → α × AState} {k : α → AState → Option β × AState} {Q : α → Prop}
    {R : β → Prop} (hf : Stage f fun a _ => Q a) (hk : ∀ a, Q a → Stage (k a) (orLogged R)) :
    Stage (fun s => k (f s).1 (f s).2) (orLogged R) := by
  intro s
  obtain ⟨a, e, x, hQ, h⟩ := hf s
  obtain ⟨b, e', x', hR, h'⟩ := hk a hQ s
  refine ⟨b, e ++ e', x && x', hR.append e, fun e0 x0 => ?_⟩
  show k (f (s.relog e0 x0)).1 (f (s.relog e0 x0)).2 = _
  rw [h, h', List.append_assoc, Bool.and_assoc]

/-- `bindS`: the rest may look at the state it is entered from, but not at its log -/
theorem Stage.bindS' {α β : Type} {f : AState → Option α × AState} {k : AState → α → AState → Option β × AState}
    {Q : α → Prop} {R : β → Prop} (hf : Stage f (orLogged Q)) (hk : ∀ s a, Q a → Stage (k s a) (orLogged R))
    (hinv : ∀ s e0 x0, k (s.relog e0 x0) = k s) : Stage (fun s => bindS (f s) (k s)) (orLogged R) := by
  intro s
  obtain ⟨a, e, x, hQ, h⟩ := hf s
  cases a with
  | none => exact ⟨none, e, x, hQ, fun e0 x0 => by show bindS (f _) _ = _; rw [h]; rfl⟩
  | some a =>
    obtain ⟨b, e', x', hR, h'⟩ := hk s a hQ s
    refine ⟨b, e ++ e', x && x', hR.append e, fun e0 x0 => ?_⟩
    show bindS (f _) (k _) = _
    rw [h, hinv]
    show k s a _ = _
    rw [h', List.append_assoc, Bool.and_assoc]

theorem Stage.bindS {α β : Type} {f : AState → Option α × AState} {k : α → AState → Option β × AState}
    {Q : α → Prop} {R : β → Prop} (hf : Stage f (orLogged Q)) (hk : ∀ a, Q a → Stage (k a) (orLogged R)) :
    Stage (fun s => bindS (f s) k) (orLogged R) :=
  Stage.bindS' hf (fun _ => hk) fun _ _ _ => rfl

theorem reqCol_of_some {α : Type} {c : Col α} {v : α} (h : c.val = some v) (s : AState) :
    reqCol c s = (some v, { s with exact := s.exact && c.exact }) := by
  unfold reqCol
  simp only [h]

theorem reqCol_of_noValue {α : Type} {c : Col α} (h : c.val = none ∧ c.err = []) (s : AState) :
    reqCol c s = (none, { s with errors := s.errors ++ [missingValue] }) := by
  unfold reqCol
  simp only [h.1, h.2]

theorem reqCol_stage {α : Type} (c : Col α) : Stage (reqCol c) (orLogged fun v => c.val = some v) := by
  refine Stage.intro (fun s => ?_) fun s e0 x0 => ?_
  · unfold reqCol
    split
    · assumption
    · exact List.cons_ne_nil _ _
    · simpa using ‹_›
  · unfold reqCol
    split <;> simp only [List.nil_append, Bool.true_and, List.append_nil, Bool.and_true]

/-- the residue number of a row: the author's cell when it holds a number, else the label cell, else a count -/
def NumberOf (vals : List (Option CifValue)) (n : Int) : Prop :=
  (colIsize ((vals[22]?).join)).val = some n ∨
  ((colIsize ((vals[22]?).join)).val = none ∧ ∃ total : Nat, n = (colIsize ((vals[21]?).join)).val.getD (total : Int))

theorem rowResNum_stage (vals : List (Option CifValue)) :
    Stage (fun s => rowResNum s vals) fun n _ => NumberOf vals n := by
  refine Stage.intro (fun s => ?_) fun s e0 x0 => ?_
  · simp only [rowResNum]
    split
    · exact Or.inl ‹_›
    · exact Or.inr ⟨‹_›, _, rfl⟩
  · simp only [rowResNum]
    split <;> simp only [List.nil_append, Bool.true_and, List.append_assoc, Bool.and_assoc]

/-- the chain id of a row: the author's cell when it has a value, else the label cell -/
def ChainOf (vals : List (Option CifValue)) (chain : List Char) : Prop :=
  (colText ((vals[11]?).join)).val = some chain ∨
  ((colText ((vals[11]?).join)).val = none ∧ (colText ((vals[10]?).join)).val = some chain)

theorem rowChain_stage (vals : List (Option CifValue)) : Stage (fun s => rowChain s vals) (orLogged (ChainOf vals)) := by
  refine Stage.intro (fun s => ?_) fun s e0 x0 => ?_
  · simp only [rowChain, reqCol]
    split
    · exact Or.inl ‹_›
    · split
      · exact Or.inr ⟨‹_›, ‹_›⟩
      · exact List.cons_ne_nil _ _
      · simpa using ‹_›
  · simp only [rowChain, reqCol]
    split <;> (try split) <;> simp only [List.nil_append, Bool.true_and, List.append_nil, Bool.and_assoc]

/-- the mandatory cells of a row are the values of its own columns, the author's chain id and residue number preferred -/
def CellsOf (vals : List (Option CifValue)) (c : RowCells) : Prop :=
  (colText ((vals[19]?).join)).val = some c.name ∧ (colText ((vals[16]?).join)).val = some c.id ∧
  (colText ((vals[14]?).join)).val = some c.resName ∧ NumberOf vals c.resNum ∧ ChainOf vals c.chain ∧
  (colF64 ((vals[24]?).join)).val = some c.x ∧ (colF64 ((vals[25]?).join)).val = some c.y ∧
  (colF64 ((vals[26]?).join)).val = some c.z

theorem rowCells_stage (vals : List (Option CifValue)) : Stage (fun s => rowCells s vals) (orLogged (CellsOf vals)) := by
  unfold rowCells
  refine Stage.bindS (reqCol_stage _) fun name hname => ?_
  refine Stage.bindS (reqCol_stage _) fun id hid => ?_
  refine Stage.bindS (reqCol_stage _) fun resName hres => ?_
  -- `rowResNum` may take its value from the state (the number of residues so far, when no cell gives one), so the rest
  -- is entered from the state behind it: `bindS'`, which asks that this value does not depend on the log
  refine Stage.bindS' (f := fun s => rowChain (rowResNum s vals).2 vals)
    (Stage.bind (k := fun _ s => rowChain s vals) (rowResNum_stage vals) fun _ _ => rowChain_stage vals) ?_
    fun s e0 x0 => by simp only [(rowResNum_stage vals).fst_relog]
  intro s chain hchain
  refine Stage.bindS (reqCol_stage _) fun x hx => ?_
  refine Stage.bindS (reqCol_stage _) fun y hy => ?_
  refine Stage.bindS (reqCol_stage _) fun z hz => ?_
  exact Stage.pure _ ⟨hname, hid, hres, (rowResNum_stage vals).value s, hchain, hx, hy, hz⟩

/-- the optional cells of a row, the tensor cells apart, are the values of its own columns, or the documented defaults -/
def OptOf (vals : List (Option CifValue)) (o : RowOpt) : Prop :=
  o.occ = (colF64 ((vals[20]?).join)).val.getD (fltInt 1) ∧ o.b = (colF64 ((vals[12]?).join)).val.getD (fltInt 1) ∧
  o.charge = (colIsize ((vals[13]?).join)).val.getD 0 ∧
  o.alt = (colText ((vals[0]?).join)).val ∧ o.ins = (colText ((vals[17]?).join)).val

theorem rowOptional_stage (vals : List (Option CifValue)) : Stage (fun s => rowOptional s vals) fun o _ => OptOf vals o := by
  refine Stage.intro (fun s => ?_) fun s e0 x0 => ?_
  · unfold rowOptional OptOf
    simp only
    exact ⟨trivial, trivial, trivial, trivial, trivial⟩
  · simp only [rowOptional]
    split <;> (try split) <;> simp only [List.nil_append, Bool.true_and, List.append_assoc, Bool.and_assoc]

/-- the model number a row states (1 when the cell is absent or has no value) -/
def rowNumber (vals : List (Option CifValue)) : Nat := (colUsize ((vals[18]?).join)).val.getD 1

/-- the `Model::add_atom` operation of a row: chain id and residue number with the author's cells preferred,
insertion code, residue name and alternate location from their cells, and an atom -/
def IsRowOp (vals : List (Option CifValue)) (op : RawMOp) : Prop :=
  ∃ (chain resName : List Char) (num : Int),
    ChainOf vals chain ∧ NumberOf vals num ∧ (colText ((vals[14]?).join)).val = some resName ∧
    op.1 = String.ofList chain ∧ op.2.1.1 = num ∧
    op.2.1.2 = (colText ((vals[17]?).join)).val.map String.ofList ∧
    op.2.2.1.1 = String.ofList resName ∧ op.2.2.1.2 = (colText ((vals[0]?).join)).val.map String.ofList ∧
    -- the atom is the one `Atom::new` builds from the row's cells, possibly with a tensor attached
    ∃ (name id : List Char) (x y z : Flt) (a0 : Atom) (ex het : Bool) (cnt : Nat),
      (colText ((vals[19]?).join)).val = some name ∧ (colText ((vals[16]?).join)).val = some id ∧
      (colF64 ((vals[24]?).join)).val = some x ∧ (colF64 ((vals[25]?).join)).val = some y ∧
      (colF64 ((vals[26]?).join)).val = some z ∧
      atomNew het cnt id name x y z ((colF64 ((vals[20]?).join)).val.getD (fltInt 1))
        ((colF64 ((vals[12]?).join)).val.getD (fltInt 1)) ((colText ((vals[23]?).join)).val.getD [])
        ((colIsize ((vals[13]?).join)).val.getD 0) = some (a0, ex) ∧
      (op.2.2.2 = a0 ∨ ∃ t, op.2.2.2 = { a0 with atf := some t })

theorem withTensor_cases (a : Atom) (an : Option (List Flt)) :
    (withTensor a an).1 = a ∨ ∃ t, (withTensor a an).1 = { a with atf := some t } := by
  unfold withTensor
  split
  · exact Or.inl rfl
  · split
    · exact Or.inr ⟨_, rfl⟩
    · exact Or.inr ⟨_, rfl⟩

/-- the test of `placeRow`: an identifier that `Chain::new`, `Residue::new` or `Conformer::new` would refuse -/
def badIds (c : RowCells) (o : RowOpt) : Bool :=
  (prepareIdentifier c.chain).isNone || (prepareIdentifierUpper c.resName).isNone ||
    (match o.ins with | some ic => (prepareIdentifierUpper ic).isNone | none => false)

theorem placeRow_eq (s : AState) (vals : List (Option CifValue)) (n : Nat) (at_ el : List Char) (c : RowCells) :
    placeRow s vals n at_ el c =
      if badIds c (rowOptional s vals).1 then
        { (rowOptional s vals).2 with errors := (rowOptional s vals).2.errors ++ [(.invalidating, "Invalid identifier")] }
      else placeAtom (rowOptional s vals).2 n at_ el c (rowOptional s vals).1 := by
  unfold placeRow badIds
  rfl

theorem addAtom_of_goodIds (m : Model) (c : RowCells) (o : RowOpt) (a : Atom) (h : badIds c o = false) :
    ∃ m', m.addAtom (String.ofList c.chain, ((c.resNum, o.ins.map String.ofList),
      ((String.ofList c.resName, o.alt.map String.ofList), a))) = some m' := by
  simp only [badIds, Bool.or_eq_false_iff] at h
  obtain ⟨⟨h1, h2⟩, h3⟩ := h
  unfold Model.addAtom normMOp normCOp normROp normConfId normResId normChainId prepIdS prepIdUpS
  simp only [String.toList_ofList]
  cases hc : prepareIdentifier c.chain with
  | none => rw [hc] at h1; cases h1
  | some t =>
    rw [(prepareIdentifier_eq_some.mp hc).2.2, prepareIdentifier_trim c.chain t hc]
    cases hr : prepareIdentifierUpper c.resName with
    | none => rw [hr] at h2; cases h2
    | some rn =>
      cases hins : o.ins with
      | none => simp [bind, Option.bind, pure]
      | some ic =>
        simp only [hins] at h3
        cases hi : prepareIdentifierUpper ic with
        | none => rw [hi] at h3; cases h3
        | some icn => simp [bind, Option.bind, hi, pure, String.toList_ofList]

theorem rowModel_cases (ms : List Model) (n : Nat) :
    (∃ i m, ms[i]? = some m ∧ m.serial = n ∧ rowModel ms n = (ms, i)) ∨
    ((∀ m ∈ ms, m.serial ≠ n) ∧ rowModel ms n = (ms ++ [{ serial := n, chains := [] }], ms.length)) := by
  unfold rowModel
  cases hf : ms.findIdx? (·.serial == n) with
  | some i =>
    obtain ⟨hi, hp, -⟩ := List.findIdx?_eq_some_iff_getElem.mp hf
    exact Or.inl ⟨i, ms[i], List.getElem?_eq_getElem hi, by simpa using hp, rfl⟩
  | none => exact Or.inr ⟨fun m hm hs => by simpa [hs] using List.findIdx?_eq_none_iff.mp hf m hm, rfl⟩

theorem rowModel_index (ms : List Model) (n : Nat) : ∃ m, (rowModel ms n).1[(rowModel ms n).2]? = some m := by
  rcases rowModel_cases ms n with ⟨i, m, hm, -, h⟩ | ⟨-, h⟩ <;> rw [h]
  · exact ⟨m, hm⟩
  · exact ⟨_, List.getElem?_concat_length ..⟩

/-- what a row that the only-first-model gate lets through makes of the state `s` -/
inductive RowKept (vals : List (Option CifValue)) (s : AState) : AState → Prop
  /-- a mandatory cell gives no value (none there, or not of its type), or an identifier is refused -/
  | reported {e : List CDiag} {x : Bool} : e ≠ [] → RowKept vals s { s with errors := s.errors ++ e, exact := x }
  /-- `Atom::new` refuses: the model of the row's number has been made sure of -/
  | notNew {e : List CDiag} {x : Bool} (cs : List (Nat × Nat)) : e ≠ [] →
      RowKept vals s { s with models := (rowModel s.models (rowNumber vals)).1, counts := cs,
                              errors := s.errors ++ e, exact := x }
  /-- one `Model::add_atom` into the model of the row's number -/
  | placed {e : List CDiag} {x : Bool} (op : RawMOp) (m m' : Model) (cs : List (Nat × Nat)) (ids dups : List String) :
      IsRowOp vals op →
      (rowModel s.models (rowNumber vals)).1[(rowModel s.models (rowNumber vals)).2]? = some m → m.addAtom op = some m' →
      RowKept vals s { s with models := (rowModel s.models (rowNumber vals)).1.set (rowModel s.models (rowNumber vals)).2 m',
                              counts := cs, ids := ids, dupIds := dups, errors := s.errors ++ e, exact := x }

theorem placeIn_of_some {ms : List Model} {i : Nat} {op : RawMOp} {m m' : Model} (hm : ms[i]? = some m)
    (hadd : m.addAtom op = some m') : placeIn ms i op = ms.set i m' := by
  unfold placeIn
  rw [hm]
  simp only [hadd]

theorem rowKept_step (vals : List (Option CifValue)) (s : AState) : RowKept vals s (atomRowCore false s vals) := by
  obtain ⟨oc, e1, x1, hc, h1⟩ := rowCells_stage vals s
  obtain ⟨o, e2, x2, ⟨hocc, hb, hcharge, halt, hins⟩, h2⟩ := rowOptional_stage vals s
  have hn : (colUsize ((vals[18]?).join)).val.getD 1 = rowNumber vals := rfl
  unfold atomRowCore firstModelGate
  simp only [Bool.false_eq_true, if_false, h1, hn]
  cases oc with
  | none =>
    simp only [List.append_assoc]
    exact .reported (List.append_ne_nil_of_right_ne_nil _ hc)
  | some c =>
    simp only [placeRow_eq, h2]
    cases hbad : badIds c o with
    | true =>
      simp only [if_true, List.append_assoc]
      exact .reported (by simp)
    | false =>
      simp only [Bool.false_eq_true, if_false]
      unfold placeAtom
      simp only [List.append_assoc]
      split
      · exact .notNew _ (by simp)
      · next a0 ex hnew =>
        obtain ⟨hname, hid, hres, hnum, hchain, hx, hy, hz⟩ := hc
        obtain ⟨m, hm⟩ := rowModel_index s.models (rowNumber vals)
        obtain ⟨m', hadd⟩ := addAtom_of_goodIds m c o (withTensor a0 o.aniso).1 hbad
        rw [hocc, hb, hcharge] at hnew
        rw [placeIn_of_some hm hadd]
        refine .placed _ m m' _ _ _ ?_ hm hadd
        exact ⟨c.chain, c.resName, c.resNum, hchain, hnum, hres, rfl, rfl, congrArg (Option.map String.ofList) hins, rfl,
          congrArg (Option.map String.ofList) halt, c.name, c.id, c.x, c.y, c.z, a0, ex, _, _, hname, hid, hx, hy, hz,
          hnew, withTensor_cases a0 o.aniso⟩

/-- what a row makes of the state `s`: skipped by only-first-model (it states another model than the first kept row),
or let through, by then with `fm` as the first model -/
inductive RowStep (olf : Bool) (vals : List (Option CifValue)) (s : AState) : AState → Prop
  | skipped {e : List CDiag} {x : Bool} (f : Nat) : olf = true → s.firstModel = some f → rowNumber vals ≠ f →
      RowStep olf vals s { s with errors := s.errors ++ e, exact := x }
  | kept {r : AState} (fm : Option Nat) :
      fm = s.firstModel ∨ (olf = true ∧ s.firstModel = none ∧ fm = some (rowNumber vals)) →
      RowKept vals { s with firstModel := fm } r → RowStep olf vals s r

theorem atomRowCore_first (s : AState) (vals : List (Option CifValue)) (h : s.firstModel = none) :
    atomRowCore true s vals = atomRowCore false { s with firstModel := some (rowNumber vals) } vals := by
  unfold atomRowCore firstModelGate rowNumber
  simp only [h, if_true, Bool.false_eq_true, if_false]

theorem atomRowCore_same (s : AState) (vals : List (Option CifValue)) (f : Nat) (h : s.firstModel = some f)
    (hm : rowNumber vals = f) : atomRowCore true s vals = atomRowCore false s vals := by
  unfold atomRowCore firstModelGate rowNumber at *
  simp only [h, if_true, Bool.false_eq_true, if_false, hm, bne_self_eq_false]

/-- a row of another model leaves nothing but what reading its element and model-number cells cost (the two cells read
before the gate) -/
theorem atomRowCore_skip (s : AState) (vals : List (Option CifValue)) (f : Nat) (h : s.firstModel = some f)
    (hm : rowNumber vals ≠ f) :
    atomRowCore true s vals = { s with
      errors := s.errors ++ (colUsize ((vals[18]?).join)).err,
      exact := (s.exact && (colText ((vals[23]?).join)).exact && (colUsize ((vals[18]?).join)).exact) } := by
  have hne : ((colUsize ((vals[18]?).join)).val.getD 1 != f) = true := by simpa [rowNumber] using hm
  unfold atomRowCore firstModelGate
  simp only [h, if_true, hne]

theorem atomRowCore_gate (olf : Bool) (vals : List (Option CifValue)) (s : AState) :
    (∃ f, olf = true ∧ s.firstModel = some f ∧ rowNumber vals ≠ f ∧ ∀ e0 x0, atomRowCore olf (s.relog e0 x0) vals =
        s.relog (e0 ++ (colUsize ((vals[18]?).join)).err)
          (x0 && (colText ((vals[23]?).join)).exact && (colUsize ((vals[18]?).join)).exact)) ∨
    ∃ fm, (fm = s.firstModel ∨ (olf = true ∧ s.firstModel = none ∧ fm = some (rowNumber vals))) ∧
      ∀ e0 x0, atomRowCore olf (s.relog e0 x0) vals = atomRowCore false (AState.relog { s with firstModel := fm } e0 x0) vals := by
  cases olf with
  | false => exact Or.inr ⟨_, Or.inl rfl, fun _ _ => rfl⟩
  | true =>
    rcases Option.eq_none_or_eq_some s.firstModel with hfm | ⟨f, hfm⟩
    · exact Or.inr ⟨_, Or.inr ⟨rfl, hfm, rfl⟩, fun e0 x0 => atomRowCore_first (s.relog e0 x0) vals hfm⟩
    · by_cases hn : rowNumber vals = f
      · exact Or.inr ⟨_, Or.inl rfl, fun e0 x0 => atomRowCore_same (s.relog e0 x0) vals f hfm hn⟩
      · exact Or.inl ⟨f, rfl, hfm, hn, fun e0 x0 => atomRowCore_skip (s.relog e0 x0) vals f hfm hn⟩

theorem atomRowCore_step (olf : Bool) (vals : List (Option CifValue)) (s : AState) :
    RowStep olf vals s (atomRowCore olf s vals) := by
  rcases atomRowCore_gate olf vals s with ⟨f, holf, hfm, hn, h⟩ | ⟨fm, hfm, h⟩
  · exact (h s.errors s.exact) ▸ .skipped f holf hfm hn
  · exact (h s.errors s.exact) ▸ .kept fm hfm (rowKept_step vals _)

theorem atomRowCore_models (olf : Bool) (vals : List (Option CifValue)) (s : AState) :
    (atomRowCore olf s vals).models = s.models ∨
    (atomRowCore olf s vals).models = (rowModel s.models (rowNumber vals)).1 ∨
    ∃ op m m', IsRowOp vals op ∧
      (rowModel s.models (rowNumber vals)).1[(rowModel s.models (rowNumber vals)).2]? = some m ∧ m.addAtom op = some m' ∧
      (atomRowCore olf s vals).models = (rowModel s.models (rowNumber vals)).1.set (rowModel s.models (rowNumber vals)).2 m' := by
  have h := atomRowCore_step olf vals s
  generalize atomRowCore olf s vals = r at h ⊢
  cases h with
  | skipped => exact Or.inl rfl
  | kept fm _ hk =>
    cases hk with
    | reported => exact Or.inl rfl
    | notNew => exact Or.inr (Or.inl rfl)
    | placed op m m' _ _ _ hop hm hadd => exact Or.inr (Or.inr ⟨op, m, m', hop, hm, hadd, rfl⟩)

/-- `f` does not read the log: on states that differ in the log alone it does the same and appends the same -/
def LogBlind (f : AState → AState) : Prop :=
  ∀ s : AState, ∃ (r : AState) (e : List CDiag) (x : Bool), ∀ e0 x0, f (s.relog e0 x0) = r.relog (e0 ++ e) (x0 && x)

theorem LogBlind.intro {f : AState → AState}
    (h : ∀ (s : AState) e0 x0, f (s.relog e0 x0) =
      (f (s.relog [] true)).relog (e0 ++ (f (s.relog [] true)).errors) (x0 && (f (s.relog [] true)).exact)) :
    LogBlind f :=
  fun s => ⟨_, _, _, h s⟩

theorem placeAtom_logBlind (n : Nat) (at_ el : List Char) (c : RowCells) (o : RowOpt) :
    LogBlind fun s => placeAtom s n at_ el c o := by
  refine LogBlind.intro fun s e0 x0 => ?_
  unfold placeAtom
  simp only
  split <;> simp only [List.nil_append, Bool.true_and, Bool.and_true, List.append_assoc, Bool.and_assoc] <;> rfl

theorem rowKept_logBlind (vals : List (Option CifValue)) : LogBlind fun s => atomRowCore false s vals := by
  refine LogBlind.intro fun s e0 x0 => ?_
  obtain ⟨oc, e1, x1, -, h1⟩ := rowCells_stage vals s
  obtain ⟨o, e2, x2, -, h2⟩ := rowOptional_stage vals s
  unfold atomRowCore firstModelGate
  simp only [Bool.false_eq_true, if_false, h1]
  cases oc with
  | none => simp only [List.nil_append, Bool.true_and, List.append_assoc, Bool.and_assoc]
  | some c =>
    obtain ⟨r, e3, x3, h3⟩ := placeAtom_logBlind ((colUsize ((vals[18]?).join)).val.getD 1)
      ((colText ((vals[15]?).join)).val.getD "ATOM".toList) ((colText ((vals[23]?).join)).val.getD []) c o s
    simp only [placeRow_eq, h2]
    split <;> simp only [h3, List.nil_append, Bool.true_and, List.append_assoc, Bool.and_assoc]

theorem atomRowCore_logBlind (olf : Bool) (vals : List (Option CifValue)) : LogBlind fun s => atomRowCore olf s vals := by
  intro s
  rcases atomRowCore_gate olf vals s with ⟨f, -, -, -, h⟩ | ⟨fm, -, h⟩
  · exact ⟨s, _, _, fun e0 x0 => (h e0 x0).trans (by rw [Bool.and_assoc])⟩
  · obtain ⟨r, e, x, hk⟩ := rowKept_logBlind vals { s with firstModel := fm }
    exact ⟨r, e, x, fun e0 x0 => (h e0 x0).trans (hk e0 x0)⟩

end PdbModel
