/- GENERATED by tools/gen_tables.py from src/reference/crystal_transformations.txt — do not edit -/
import PdbModel.SG
namespace PdbModel.Gen
namespace SG

/-! per group: `ops`, its operators (identity not stored), 12 base-16 digits each; `tree`, a search tree over the
identity and the operators (membership helper for the kernel) -/

def ops001 : List Nat := []
def tree001 : PdbModel.OpTree := (OpTree.node OpTree.leaf 17592202821648 OpTree.leaf)
def ops002 : List Nat := [193514231038128]
def tree002 : PdbModel.OpTree := (OpTree.node (OpTree.node OpTree.leaf 17592202821648 OpTree.leaf) 193514231038128 OpTree.leaf)
def ops003 : List Nat := [193514063265968]
def tree003 : PdbModel.OpTree := (OpTree.node (OpTree.node OpTree.leaf 17592202821648 OpTree.leaf) 193514063265968 OpTree.leaf)
def ops004 : List Nat := [193514063659184]
def tree004 : PdbModel.OpTree := (OpTree.node (OpTree.node OpTree.leaf 17592202821648 OpTree.leaf) 193514063659184 OpTree.leaf)
def ops005 : List Nat := [193514063265968, 17617973018640, 193539833462960]
def tree005 : PdbModel.OpTree := (OpTree.node (OpTree.node (OpTree.node OpTree.leaf 17592202821648 OpTree.leaf) 17617973018640 OpTree.leaf) 193514063265968 (OpTree.node OpTree.leaf 193539833462960 OpTree.leaf))
def ops006 : List Nat := [17592370593808]
def tree006 : PdbModel.OpTree := (OpTree.node (OpTree.node OpTree.leaf 17592202821648 OpTree.leaf) 17592370593808 OpTree.leaf)
def ops007 : List Nat := [17592370593814]
def tree007 : PdbModel.OpTree := (OpTree.node (OpTree.node OpTree.leaf 17592202821648 OpTree.leaf) 17592370593814 OpTree.leaf)
def ops008 : List Nat := [17592370593808, 17617973018640, 17618140790800]
def tree008 : PdbModel.OpTree := (OpTree.node (OpTree.node (OpTree.node OpTree.leaf 17592202821648 OpTree.leaf) 17592370593808 OpTree.leaf) 17617973018640 (OpTree.node OpTree.leaf 17618140790800 OpTree.leaf))
def ops009 : List Nat := [17592370593814, 17617973018640, 17618140790806]
def tree009 : PdbModel.OpTree := (OpTree.node (OpTree.node (OpTree.node OpTree.leaf 17592202821648 OpTree.leaf) 17592370593814 OpTree.leaf) 17617973018640 (OpTree.node OpTree.leaf 17618140790806 OpTree.leaf))
def ops010 : List Nat := [193514063265968, 193514231038128, 17592370593808]
def tree010 : PdbModel.OpTree := (OpTree.node (OpTree.node (OpTree.node OpTree.leaf 17592202821648 OpTree.leaf) 17592370593808 OpTree.leaf) 193514063265968 (OpTree.node OpTree.leaf 193514231038128 OpTree.leaf))
def ops011 : List Nat := [193514063659184, 193514231038128, 17592370987024]
def tree011 : PdbModel.OpTree := (OpTree.node (OpTree.node (OpTree.node OpTree.leaf 17592202821648 OpTree.leaf) 17592370987024 OpTree.leaf) 193514063659184 (OpTree.node OpTree.leaf 193514231038128 OpTree.leaf))
def ops012 : List Nat := [193514063265968, 193514231038128, 17592370593808, 17617973018640, 193539833462960, 193540001235120, 17618140790800]
def tree012 : PdbModel.OpTree := (OpTree.node (OpTree.node (OpTree.node (OpTree.node OpTree.leaf 17592202821648 OpTree.leaf) 17592370593808 OpTree.leaf) 17617973018640 (OpTree.node OpTree.leaf 17618140790800 OpTree.leaf)) 193514063265968 (OpTree.node (OpTree.node OpTree.leaf 193514231038128 OpTree.leaf) 193539833462960 (OpTree.node OpTree.leaf 193540001235120 OpTree.leaf)))
def ops013 : List Nat := [193514063265974, 193514231038128, 17592370593814]
def tree013 : PdbModel.OpTree := (OpTree.node (OpTree.node (OpTree.node OpTree.leaf 17592202821648 OpTree.leaf) 17592370593814 OpTree.leaf) 193514063265974 (OpTree.node OpTree.leaf 193514231038128 OpTree.leaf))
def ops014 : List Nat := [193514063659190, 193514231038128, 17592370987030]
def tree014 : PdbModel.OpTree := (OpTree.node (OpTree.node (OpTree.node OpTree.leaf 17592202821648 OpTree.leaf) 17592370987030 OpTree.leaf) 193514063659190 (OpTree.node OpTree.leaf 193514231038128 OpTree.leaf))
def ops015 : List Nat := [193514063265974, 193514231038128, 17592370593814, 17617973018640, 193539833462966, 193540001235120, 17618140790806]
def tree015 : PdbModel.OpTree := (OpTree.node (OpTree.node (OpTree.node (OpTree.node OpTree.leaf 17592202821648 OpTree.leaf) 17592370593814 OpTree.leaf) 17617973018640 (OpTree.node OpTree.leaf 17618140790806 OpTree.leaf)) 193514063265974 (OpTree.node (OpTree.node OpTree.leaf 193514231038128 OpTree.leaf) 193539833462966 (OpTree.node OpTree.leaf 193540001235120 OpTree.leaf)))
def ops016 : List Nat := [193514231037968, 17592370593968, 193514063265968]
def tree016 : PdbModel.OpTree := (OpTree.node (OpTree.node (OpTree.node OpTree.leaf 17592202821648 OpTree.leaf) 17592370593968 OpTree.leaf) 193514063265968 (OpTree.node OpTree.leaf 193514231037968 OpTree.leaf))
def ops017 : List Nat := [193514231037974, 17592370593968, 193514063265974]
def tree017 : PdbModel.OpTree := (OpTree.node (OpTree.node (OpTree.node OpTree.leaf 17592202821648 OpTree.leaf) 17592370593968 OpTree.leaf) 193514063265974 (OpTree.node OpTree.leaf 193514231037974 OpTree.leaf))
def ops018 : List Nat := [193514231037968, 17618140790960, 193539833462960]
def tree018 : PdbModel.OpTree := (OpTree.node (OpTree.node (OpTree.node OpTree.leaf 17592202821648 OpTree.leaf) 17618140790960 OpTree.leaf) 193514231037968 (OpTree.node OpTree.leaf 193539833462960 OpTree.leaf))
def ops019 : List Nat := [193540000841750, 17618140790960, 193514063659190]
def tree019 : PdbModel.OpTree := (OpTree.node (OpTree.node (OpTree.node OpTree.leaf 17592202821648 OpTree.leaf) 17618140790960 OpTree.leaf) 193514063659190 (OpTree.node OpTree.leaf 193540000841750 OpTree.leaf))
def ops020 : List Nat := [193514231037974, 17592370593968, 193514063265974, 17617973018640, 193540001234966, 17618140790960, 193539833462966]
def tree020 : PdbModel.OpTree := (OpTree.node (OpTree.node (OpTree.node (OpTree.node OpTree.leaf 17592202821648 OpTree.leaf) 17592370593968 OpTree.leaf) 17617973018640 (OpTree.node OpTree.leaf 17618140790960 OpTree.leaf)) 193514063265974 (OpTree.node (OpTree.node OpTree.leaf 193514231037974 OpTree.leaf) 193539833462966 (OpTree.node OpTree.leaf 193540001234966 OpTree.leaf)))
def ops021 : List Nat := [193514231037968, 17592370593968, 193514063265968, 17617973018640, 193540001234960, 17618140790960, 193539833462960]
def tree021 : PdbModel.OpTree := (OpTree.node (OpTree.node (OpTree.node (OpTree.node OpTree.leaf 17592202821648 OpTree.leaf) 17592370593968 OpTree.leaf) 17617973018640 (OpTree.node OpTree.leaf 17618140790960 OpTree.leaf)) 193514063265968 (OpTree.node (OpTree.node OpTree.leaf 193514231037968 OpTree.leaf) 193539833462960 (OpTree.node OpTree.leaf 193540001234960 OpTree.leaf)))
def ops022 : List Nat := [193514231037968, 17592370593968, 193514063265968, 17592203214870, 193514231431190, 17592370987190, 193514063659190, 17617972625430, 193540000841750, 17618140397750, 193539833069750, 17617973018640, 193540001234960, 17618140790960, 193539833462960]
def tree022 : PdbModel.OpTree := (OpTree.node (OpTree.node (OpTree.node (OpTree.node (OpTree.node OpTree.leaf 17592202821648 OpTree.leaf) 17592203214870 OpTree.leaf) 17592370593968 (OpTree.node OpTree.leaf 17592370987190 OpTree.leaf)) 17617972625430 (OpTree.node (OpTree.node OpTree.leaf 17617973018640 OpTree.leaf) 17618140397750 (OpTree.node OpTree.leaf 17618140790960 OpTree.leaf))) 193514063265968 (OpTree.node (OpTree.node (OpTree.node OpTree.leaf 193514063659190 OpTree.leaf) 193514231037968 (OpTree.node OpTree.leaf 193514231431190 OpTree.leaf)) 193539833069750 (OpTree.node (OpTree.node OpTree.leaf 193539833462960 OpTree.leaf) 193540000841750 (OpTree.node OpTree.leaf 193540001234960 OpTree.leaf))))
def ops023 : List Nat := [193514231037968, 17592370593968, 193514063265968, 17617973018646, 193540001234966, 17618140790966, 193539833462966]
def tree023 : PdbModel.OpTree := (OpTree.node (OpTree.node (OpTree.node (OpTree.node OpTree.leaf 17592202821648 OpTree.leaf) 17592370593968 OpTree.leaf) 17617973018646 (OpTree.node OpTree.leaf 17618140790966 OpTree.leaf)) 193514063265968 (OpTree.node (OpTree.node OpTree.leaf 193514231037968 OpTree.leaf) 193539833462966 (OpTree.node OpTree.leaf 193540001234966 OpTree.leaf)))
def ops024 : List Nat := [193514231431184, 17592370593974, 193514063659190, 17617973018646, 193540000841750, 17618140790960, 193539833069744]
def tree024 : PdbModel.OpTree := (OpTree.node (OpTree.node (OpTree.node (OpTree.node OpTree.leaf 17592202821648 OpTree.leaf) 17592370593974 OpTree.leaf) 17617973018646 (OpTree.node OpTree.leaf 17618140790960 OpTree.leaf)) 193514063659190 (OpTree.node (OpTree.node OpTree.leaf 193514231431184 OpTree.leaf) 193539833069744 (OpTree.node OpTree.leaf 193540000841750 OpTree.leaf)))
def ops025 : List Nat := [193514231037968, 193514063265808, 17592370593808]
def tree025 : PdbModel.OpTree := (OpTree.node (OpTree.node (OpTree.node OpTree.leaf 17592202821648 OpTree.leaf) 17592370593808 OpTree.leaf) 193514063265808 (OpTree.node OpTree.leaf 193514231037968 OpTree.leaf))
def ops026 : List Nat := [193514231037974, 193514063265808, 17592370593814]
def tree026 : PdbModel.OpTree := (OpTree.node (OpTree.node (OpTree.node OpTree.leaf 17592202821648 OpTree.leaf) 17592370593814 OpTree.leaf) 193514063265808 (OpTree.node OpTree.leaf 193514231037974 OpTree.leaf))
def ops027 : List Nat := [193514231037968, 193514063265814, 17592370593814]
def tree027 : PdbModel.OpTree := (OpTree.node (OpTree.node (OpTree.node OpTree.leaf 17592202821648 OpTree.leaf) 17592370593814 OpTree.leaf) 193514063265814 (OpTree.node OpTree.leaf 193514231037968 OpTree.leaf))
def ops028 : List Nat := [193514231037968, 193539833069584, 17618140397584]
def tree028 : PdbModel.OpTree := (OpTree.node (OpTree.node (OpTree.node OpTree.leaf 17592202821648 OpTree.leaf) 17618140397584 OpTree.leaf) 193514231037968 (OpTree.node OpTree.leaf 193539833069584 OpTree.leaf))
def ops029 : List Nat := [193514231037974, 193539833069590, 17618140397584]
def tree029 : PdbModel.OpTree := (OpTree.node (OpTree.node (OpTree.node OpTree.leaf 17592202821648 OpTree.leaf) 17618140397584 OpTree.leaf) 193514231037974 (OpTree.node OpTree.leaf 193539833069590 OpTree.leaf))
def ops030 : List Nat := [193514231037968, 193514063659030, 17592370987030]
def tree030 : PdbModel.OpTree := (OpTree.node (OpTree.node (OpTree.node OpTree.leaf 17592202821648 OpTree.leaf) 17592370987030 OpTree.leaf) 193514063659030 (OpTree.node OpTree.leaf 193514231037968 OpTree.leaf))
def ops031 : List Nat := [193540000841750, 193514063265808, 17618140397590]
def tree031 : PdbModel.OpTree := (OpTree.node (OpTree.node (OpTree.node OpTree.leaf 17592202821648 OpTree.leaf) 17618140397590 OpTree.leaf) 193514063265808 (OpTree.node OpTree.leaf 193540000841750 OpTree.leaf))
def ops032 : List Nat := [193514231037968, 193539833462800, 17618140790800]
def tree032 : PdbModel.OpTree := (OpTree.node (OpTree.node (OpTree.node OpTree.leaf 17592202821648 OpTree.leaf) 17618140790800 OpTree.leaf) 193514231037968 (OpTree.node OpTree.leaf 193539833462800 OpTree.leaf))
def ops033 : List Nat := [193514231037974, 193539833462806, 17618140790800]
def tree033 : PdbModel.OpTree := (OpTree.node (OpTree.node (OpTree.node OpTree.leaf 17592202821648 OpTree.leaf) 17618140790800 OpTree.leaf) 193514231037974 (OpTree.node OpTree.leaf 193539833462806 OpTree.leaf))
def ops034 : List Nat := [193514231037968, 193539833462806, 17618140790806]
def tree034 : PdbModel.OpTree := (OpTree.node (OpTree.node (OpTree.node OpTree.leaf 17592202821648 OpTree.leaf) 17618140790806 OpTree.leaf) 193514231037968 (OpTree.node OpTree.leaf 193539833462806 OpTree.leaf))
def ops035 : List Nat := [193514231037968, 193514063265808, 17592370593808, 17617973018640, 193540001234960, 193539833462800, 17618140790800]
def tree035 : PdbModel.OpTree := (OpTree.node (OpTree.node (OpTree.node (OpTree.node OpTree.leaf 17592202821648 OpTree.leaf) 17592370593808 OpTree.leaf) 17617973018640 (OpTree.node OpTree.leaf 17618140790800 OpTree.leaf)) 193514063265808 (OpTree.node (OpTree.node OpTree.leaf 193514231037968 OpTree.leaf) 193539833462800 (OpTree.node OpTree.leaf 193540001234960 OpTree.leaf)))
def ops036 : List Nat := [193514231037974, 193514063265808, 17592370593814, 17617973018640, 193540001234966, 193539833462800, 17618140790806]
def tree036 : PdbModel.OpTree := (OpTree.node (OpTree.node (OpTree.node (OpTree.node OpTree.leaf 17592202821648 OpTree.leaf) 17592370593814 OpTree.leaf) 17617973018640 (OpTree.node OpTree.leaf 17618140790806 OpTree.leaf)) 193514063265808 (OpTree.node (OpTree.node OpTree.leaf 193514231037974 OpTree.leaf) 193539833462800 (OpTree.node OpTree.leaf 193540001234966 OpTree.leaf)))
def ops037 : List Nat := [193514231037968, 193514063265814, 17592370593814, 17617973018640, 193540001234960, 193539833462806, 17618140790806]
def tree037 : PdbModel.OpTree := (OpTree.node (OpTree.node (OpTree.node (OpTree.node OpTree.leaf 17592202821648 OpTree.leaf) 17592370593814 OpTree.leaf) 17617973018640 (OpTree.node OpTree.leaf 17618140790806 OpTree.leaf)) 193514063265814 (OpTree.node (OpTree.node OpTree.leaf 193514231037968 OpTree.leaf) 193539833462806 (OpTree.node OpTree.leaf 193540001234960 OpTree.leaf)))
def ops038 : List Nat := [193514231037968, 193514063265808, 17592370593808, 17592203214870, 193514231431190, 193514063659030, 17592370987030]
def tree038 : PdbModel.OpTree := (OpTree.node (OpTree.node (OpTree.node (OpTree.node OpTree.leaf 17592202821648 OpTree.leaf) 17592203214870 OpTree.leaf) 17592370593808 (OpTree.node OpTree.leaf 17592370987030 OpTree.leaf)) 193514063265808 (OpTree.node (OpTree.node OpTree.leaf 193514063659030 OpTree.leaf) 193514231037968 (OpTree.node OpTree.leaf 193514231431190 OpTree.leaf)))
def ops039 : List Nat := [193514231037968, 193514063659024, 17592370987024, 17592203214870, 193514231431190, 193514063265814, 17592370593814]
def tree039 : PdbModel.OpTree := (OpTree.node (OpTree.node (OpTree.node (OpTree.node OpTree.leaf 17592202821648 OpTree.leaf) 17592203214870 OpTree.leaf) 17592370593814 (OpTree.node OpTree.leaf 17592370987024 OpTree.leaf)) 193514063265814 (OpTree.node (OpTree.node OpTree.leaf 193514063659024 OpTree.leaf) 193514231037968 (OpTree.node OpTree.leaf 193514231431190 OpTree.leaf)))
def ops040 : List Nat := [193514231037968, 193539833069584, 17618140397584, 17592203214870, 193514231431190, 193539833462806, 17618140790806]
def tree040 : PdbModel.OpTree := (OpTree.node (OpTree.node (OpTree.node (OpTree.node OpTree.leaf 17592202821648 OpTree.leaf) 17592203214870 OpTree.leaf) 17618140397584 (OpTree.node OpTree.leaf 17618140790806 OpTree.leaf)) 193514231037968 (OpTree.node (OpTree.node OpTree.leaf 193514231431190 OpTree.leaf) 193539833069584 (OpTree.node OpTree.leaf 193539833462806 OpTree.leaf)))
def ops041 : List Nat := [193514231037968, 193539833462800, 17618140790800, 17592203214870, 193514231431190, 193539833069590, 17618140397590]
def tree041 : PdbModel.OpTree := (OpTree.node (OpTree.node (OpTree.node (OpTree.node OpTree.leaf 17592202821648 OpTree.leaf) 17592203214870 OpTree.leaf) 17618140397590 (OpTree.node OpTree.leaf 17618140790800 OpTree.leaf)) 193514231037968 (OpTree.node (OpTree.node OpTree.leaf 193514231431190 OpTree.leaf) 193539833069590 (OpTree.node OpTree.leaf 193539833462800 OpTree.leaf)))
def ops042 : List Nat := [193514231037968, 193514063265808, 17592370593808, 17592203214870, 193514231431190, 193514063659030, 17592370987030, 17617972625430, 193540000841750, 193539833069590, 17618140397590, 17617973018640, 193540001234960, 193539833462800, 17618140790800]
def tree042 : PdbModel.OpTree := (OpTree.node (OpTree.node (OpTree.node (OpTree.node (OpTree.node OpTree.leaf 17592202821648 OpTree.leaf) 17592203214870 OpTree.leaf) 17592370593808 (OpTree.node OpTree.leaf 17592370987030 OpTree.leaf)) 17617972625430 (OpTree.node (OpTree.node OpTree.leaf 17617973018640 OpTree.leaf) 17618140397590 (OpTree.node OpTree.leaf 17618140790800 OpTree.leaf))) 193514063265808 (OpTree.node (OpTree.node (OpTree.node OpTree.leaf 193514063659030 OpTree.leaf) 193514231037968 (OpTree.node OpTree.leaf 193514231431190 OpTree.leaf)) 193539833069590 (OpTree.node (OpTree.node OpTree.leaf 193539833462800 OpTree.leaf) 193540000841750 (OpTree.node OpTree.leaf 193540001234960 OpTree.leaf))))
def ops043 : List Nat := [193514231037968, 193526948364307, 17631025889299, 17592203214870, 193514231431190, 193526948757529, 17631025496089, 17617972625430, 193540000841750, 193552718168089, 17605256085529, 17617973018640, 193540001234960, 193552718561299, 17605255692307]
def tree043 : PdbModel.OpTree := (OpTree.node (OpTree.node (OpTree.node (OpTree.node (OpTree.node OpTree.leaf 17592202821648 OpTree.leaf) 17592203214870 OpTree.leaf) 17605255692307 (OpTree.node OpTree.leaf 17605256085529 OpTree.leaf)) 17617972625430 (OpTree.node (OpTree.node OpTree.leaf 17617973018640 OpTree.leaf) 17631025496089 (OpTree.node OpTree.leaf 17631025889299 OpTree.leaf))) 193514231037968 (OpTree.node (OpTree.node (OpTree.node OpTree.leaf 193514231431190 OpTree.leaf) 193526948364307 (OpTree.node OpTree.leaf 193526948757529 OpTree.leaf)) 193540000841750 (OpTree.node (OpTree.node OpTree.leaf 193540001234960 OpTree.leaf) 193552718168089 (OpTree.node OpTree.leaf 193552718561299 OpTree.leaf))))
def ops044 : List Nat := [193514231037968, 193514063265808, 17592370593808, 17617973018646, 193540001234966, 193539833462806, 17618140790806]
def tree044 : PdbModel.OpTree := (OpTree.node (OpTree.node (OpTree.node (OpTree.node OpTree.leaf 17592202821648 OpTree.leaf) 17592370593808 OpTree.leaf) 17617973018646 (OpTree.node OpTree.leaf 17618140790806 OpTree.leaf)) 193514063265808 (OpTree.node (OpTree.node OpTree.leaf 193514231037968 OpTree.leaf) 193539833462806 (OpTree.node OpTree.leaf 193540001234966 OpTree.leaf)))
def ops045 : List Nat := [193514231037968, 193514063265814, 17592370593814, 17617973018646, 193540001234966, 193539833462800, 17618140790800]
def tree045 : PdbModel.OpTree := (OpTree.node (OpTree.node (OpTree.node (OpTree.node OpTree.leaf 17592202821648 OpTree.leaf) 17592370593814 OpTree.leaf) 17617973018646 (OpTree.node OpTree.leaf 17618140790800 OpTree.leaf)) 193514063265814 (OpTree.node (OpTree.node OpTree.leaf 193514231037968 OpTree.leaf) 193539833462800 (OpTree.node OpTree.leaf 193540001234966 OpTree.leaf)))
def ops046 : List Nat := [193514231037968, 193539833069584, 17618140397584, 17617973018646, 193540001234966, 193514063659030, 17592370987030]
def tree046 : PdbModel.OpTree := (OpTree.node (OpTree.node (OpTree.node (OpTree.node OpTree.leaf 17592202821648 OpTree.leaf) 17592370987030 OpTree.leaf) 17617973018646 (OpTree.node OpTree.leaf 17618140397584 OpTree.leaf)) 193514063659030 (OpTree.node (OpTree.node OpTree.leaf 193514231037968 OpTree.leaf) 193539833069584 (OpTree.node OpTree.leaf 193540001234966 OpTree.leaf)))
def ops047 : List Nat := [193514231037968, 17592370593968, 193514063265968, 193514231038128, 17592202821808, 193514063265808, 17592370593808]
def tree047 : PdbModel.OpTree := (OpTree.node (OpTree.node (OpTree.node (OpTree.node OpTree.leaf 17592202821648 OpTree.leaf) 17592202821808 OpTree.leaf) 17592370593808 (OpTree.node OpTree.leaf 17592370593968 OpTree.leaf)) 193514063265808 (OpTree.node (OpTree.node OpTree.leaf 193514063265968 OpTree.leaf) 193514231037968 (OpTree.node OpTree.leaf 193514231038128 OpTree.leaf)))
def ops048 : List Nat := [193540001234960, 17592370987190, 193539833069750, 193514231038128, 17617973018800, 193514063659030, 17618140397590]
def tree048 : PdbModel.OpTree := (OpTree.node (OpTree.node (OpTree.node (OpTree.node OpTree.leaf 17592202821648 OpTree.leaf) 17592370987190 OpTree.leaf) 17617973018800 (OpTree.node OpTree.leaf 17618140397590 OpTree.leaf)) 193514063659030 (OpTree.node (OpTree.node OpTree.leaf 193514231038128 OpTree.leaf) 193539833069750 (OpTree.node OpTree.leaf 193540001234960 OpTree.leaf)))
def ops049 : List Nat := [193514231037968, 17592370593974, 193514063265974, 193514231038128, 17592202821808, 193514063265814, 17592370593814]
def tree049 : PdbModel.OpTree := (OpTree.node (OpTree.node (OpTree.node (OpTree.node OpTree.leaf 17592202821648 OpTree.leaf) 17592202821808 OpTree.leaf) 17592370593814 (OpTree.node OpTree.leaf 17592370593974 OpTree.leaf)) 193514063265814 (OpTree.node (OpTree.node OpTree.leaf 193514063265974 OpTree.leaf) 193514231037968 (OpTree.node OpTree.leaf 193514231038128 OpTree.leaf)))
def ops050 : List Nat := [193540001234960, 17592370987184, 193539833069744, 193514231038128, 17617973018800, 193514063659024, 17618140397584]
def tree050 : PdbModel.OpTree := (OpTree.node (OpTree.node (OpTree.node (OpTree.node OpTree.leaf 17592202821648 OpTree.leaf) 17592370987184 OpTree.leaf) 17617973018800 (OpTree.node OpTree.leaf 17618140397584 OpTree.leaf)) 193514063659024 (OpTree.node (OpTree.node OpTree.leaf 193514231038128 OpTree.leaf) 193539833069744 (OpTree.node OpTree.leaf 193540001234960 OpTree.leaf)))
def ops051 : List Nat := [193540000841744, 17618140397744, 193514063265968, 193514231038128, 17617972625584, 193539833069584, 17592370593808]
def tree051 : PdbModel.OpTree := (OpTree.node (OpTree.node (OpTree.node (OpTree.node OpTree.leaf 17592202821648 OpTree.leaf) 17592370593808 OpTree.leaf) 17617972625584 (OpTree.node OpTree.leaf 17618140397744 OpTree.leaf)) 193514063265968 (OpTree.node (OpTree.node OpTree.leaf 193514231038128 OpTree.leaf) 193539833069584 (OpTree.node OpTree.leaf 193540000841744 OpTree.leaf)))
def ops052 : List Nat := [193540000841744, 17592370987190, 193539833462966, 193514231038128, 17617972625584, 193514063659030, 17618140790806]
def tree052 : PdbModel.OpTree := (OpTree.node (OpTree.node (OpTree.node (OpTree.node OpTree.leaf 17592202821648 OpTree.leaf) 17592370987190 OpTree.leaf) 17617972625584 (OpTree.node OpTree.leaf 17618140790806 OpTree.leaf)) 193514063659030 (OpTree.node (OpTree.node OpTree.leaf 193514231038128 OpTree.leaf) 193539833462966 (OpTree.node OpTree.leaf 193540000841744 OpTree.leaf)))
def ops053 : List Nat := [193540000841750, 17592370593968, 193539833069750, 193514231038128, 17617972625590, 193514063265808, 17618140397590]
def tree053 : PdbModel.OpTree := (OpTree.node (OpTree.node (OpTree.node (OpTree.node OpTree.leaf 17592202821648 OpTree.leaf) 17592370593968 OpTree.leaf) 17617972625590 (OpTree.node OpTree.leaf 17618140397590 OpTree.leaf)) 193514063265808 (OpTree.node (OpTree.node OpTree.leaf 193514231038128 OpTree.leaf) 193539833069750 (OpTree.node OpTree.leaf 193540000841750 OpTree.leaf)))
def ops054 : List Nat := [193540000841744, 17618140397750, 193514063265974, 193514231038128, 17617972625584, 193539833069590, 17592370593814]
def tree054 : PdbModel.OpTree := (OpTree.node (OpTree.node (OpTree.node (OpTree.node OpTree.leaf 17592202821648 OpTree.leaf) 17592370593814 OpTree.leaf) 17617972625584 (OpTree.node OpTree.leaf 17618140397750 OpTree.leaf)) 193514063265974 (OpTree.node (OpTree.node OpTree.leaf 193514231038128 OpTree.leaf) 193539833069590 (OpTree.node OpTree.leaf 193540000841744 OpTree.leaf)))
def ops055 : List Nat := [193514231037968, 17618140790960, 193539833462960, 193514231038128, 17592202821808, 193539833462800, 17618140790800]
def tree055 : PdbModel.OpTree := (OpTree.node (OpTree.node (OpTree.node (OpTree.node OpTree.leaf 17592202821648 OpTree.leaf) 17592202821808 OpTree.leaf) 17618140790800 (OpTree.node OpTree.leaf 17618140790960 OpTree.leaf)) 193514231037968 (OpTree.node (OpTree.node OpTree.leaf 193514231038128 OpTree.leaf) 193539833462800 (OpTree.node OpTree.leaf 193539833462960 OpTree.leaf)))
def ops056 : List Nat := [193540001234960, 17618140397750, 193514063659190, 193514231038128, 17617973018800, 193539833069590, 17592370987030]
def tree056 : PdbModel.OpTree := (OpTree.node (OpTree.node (OpTree.node (OpTree.node OpTree.leaf 17592202821648 OpTree.leaf) 17592370987030 OpTree.leaf) 17617973018800 (OpTree.node OpTree.leaf 17618140397750 OpTree.leaf)) 193514063659190 (OpTree.node (OpTree.node OpTree.leaf 193514231038128 OpTree.leaf) 193539833069590 (OpTree.node OpTree.leaf 193540001234960 OpTree.leaf)))
def ops057 : List Nat := [193514231037974, 17592370987184, 193514063659190, 193514231038128, 17592202821814, 193514063659024, 17592370987030]
def tree057 : PdbModel.OpTree := (OpTree.node (OpTree.node (OpTree.node (OpTree.node OpTree.leaf 17592202821648 OpTree.leaf) 17592202821814 OpTree.leaf) 17592370987030 (OpTree.node OpTree.leaf 17592370987184 OpTree.leaf)) 193514063659024 (OpTree.node (OpTree.node OpTree.leaf 193514063659190 OpTree.leaf) 193514231037974 (OpTree.node OpTree.leaf 193514231038128 OpTree.leaf)))
def ops058 : List Nat := [193514231037968, 17618140790966, 193539833462966, 193514231038128, 17592202821808, 193539833462806, 17618140790806]
def tree058 : PdbModel.OpTree := (OpTree.node (OpTree.node (OpTree.node (OpTree.node OpTree.leaf 17592202821648 OpTree.leaf) 17592202821808 OpTree.leaf) 17618140790806 (OpTree.node OpTree.leaf 17618140790966 OpTree.leaf)) 193514231037968 (OpTree.node (OpTree.node OpTree.leaf 193514231038128 OpTree.leaf) 193539833462806 (OpTree.node OpTree.leaf 193539833462966 OpTree.leaf)))
def ops059 : List Nat := [193540001234960, 17618140397744, 193514063659184, 193514231038128, 17617973018800, 193539833069584, 17592370987024]
def tree059 : PdbModel.OpTree := (OpTree.node (OpTree.node (OpTree.node (OpTree.node OpTree.leaf 17592202821648 OpTree.leaf) 17592370987024 OpTree.leaf) 17617973018800 (OpTree.node OpTree.leaf 17618140397744 OpTree.leaf)) 193514063659184 (OpTree.node (OpTree.node OpTree.leaf 193514231038128 OpTree.leaf) 193539833069584 (OpTree.node OpTree.leaf 193540001234960 OpTree.leaf)))
def ops060 : List Nat := [193540001234966, 17618140790960, 193514063265974, 193514231038128, 17617973018806, 193539833462800, 17592370593814]
def tree060 : PdbModel.OpTree := (OpTree.node (OpTree.node (OpTree.node (OpTree.node OpTree.leaf 17592202821648 OpTree.leaf) 17592370593814 OpTree.leaf) 17617973018806 (OpTree.node OpTree.leaf 17618140790960 OpTree.leaf)) 193514063265974 (OpTree.node (OpTree.node OpTree.leaf 193514231038128 OpTree.leaf) 193539833462800 (OpTree.node OpTree.leaf 193540001234966 OpTree.leaf)))
def ops061 : List Nat := [193540000841750, 17618140790960, 193514063659190, 193514231038128, 17617972625590, 193539833462800, 17592370987030]
def tree061 : PdbModel.OpTree := (OpTree.node (OpTree.node (OpTree.node (OpTree.node OpTree.leaf 17592202821648 OpTree.leaf) 17592370987030 OpTree.leaf) 17617972625590 (OpTree.node OpTree.leaf 17618140790960 OpTree.leaf)) 193514063659190 (OpTree.node (OpTree.node OpTree.leaf 193514231038128 OpTree.leaf) 193539833462800 (OpTree.node OpTree.leaf 193540000841750 OpTree.leaf)))
def ops062 : List Nat := [193540000841750, 17618140790966, 193514063659184, 193514231038128, 17617972625590, 193539833462806, 17592370987024]
def tree062 : PdbModel.OpTree := (OpTree.node (OpTree.node (OpTree.node (OpTree.node OpTree.leaf 17592202821648 OpTree.leaf) 17592370987024 OpTree.leaf) 17617972625590 (OpTree.node OpTree.leaf 17618140790966 OpTree.leaf)) 193514063659184 (OpTree.node (OpTree.node OpTree.leaf 193514231038128 OpTree.leaf) 193539833462806 (OpTree.node OpTree.leaf 193540000841750 OpTree.leaf)))
def ops063 : List Nat := [193514231037974, 17592370593968, 193514063265974, 193514231038128, 17592202821814, 193514063265808, 17592370593814, 17617973018640, 193540001234966, 17618140790960, 193539833462966, 193540001235120, 17617973018806, 193539833462800, 17618140790806]
def tree063 : PdbModel.OpTree := (OpTree.node (OpTree.node (OpTree.node (OpTree.node (OpTree.node OpTree.leaf 17592202821648 OpTree.leaf) 17592202821814 OpTree.leaf) 17592370593814 (OpTree.node OpTree.leaf 17592370593968 OpTree.leaf)) 17617973018640 (OpTree.node (OpTree.node OpTree.leaf 17617973018806 OpTree.leaf) 17618140790806 (OpTree.node OpTree.leaf 17618140790960 OpTree.leaf))) 193514063265808 (OpTree.node (OpTree.node (OpTree.node OpTree.leaf 193514063265974 OpTree.leaf) 193514231037974 (OpTree.node OpTree.leaf 193514231038128 OpTree.leaf)) 193539833462800 (OpTree.node (OpTree.node OpTree.leaf 193539833462966 OpTree.leaf) 193540001234966 (OpTree.node OpTree.leaf 193540001235120 OpTree.leaf))))
def ops064 : List Nat := [193540000841750, 17592370593968, 193539833069750, 193514231038128, 17617972625590, 193514063265808, 17618140397590, 17617973018640, 193514231431190, 17618140790960, 193514063659190, 193540001235120, 17592203215030, 193539833462800, 17592370987030]
def tree064 : PdbModel.OpTree := (OpTree.node (OpTree.node (OpTree.node (OpTree.node (OpTree.node OpTree.leaf 17592202821648 OpTree.leaf) 17592203215030 OpTree.leaf) 17592370593968 (OpTree.node OpTree.leaf 17592370987030 OpTree.leaf)) 17617972625590 (OpTree.node (OpTree.node OpTree.leaf 17617973018640 OpTree.leaf) 17618140397590 (OpTree.node OpTree.leaf 17618140790960 OpTree.leaf))) 193514063265808 (OpTree.node (OpTree.node (OpTree.node OpTree.leaf 193514063659190 OpTree.leaf) 193514231038128 (OpTree.node OpTree.leaf 193514231431190 OpTree.leaf)) 193539833069750 (OpTree.node (OpTree.node OpTree.leaf 193539833462800 OpTree.leaf) 193540000841750 (OpTree.node OpTree.leaf 193540001235120 OpTree.leaf))))
def ops065 : List Nat := [193514231037968, 17592370593968, 193514063265968, 193514231038128, 17592202821808, 193514063265808, 17592370593808, 17617973018640, 193540001234960, 17618140790960, 193539833462960, 193540001235120, 17617973018800, 193539833462800, 17618140790800]
def tree065 : PdbModel.OpTree := (OpTree.node (OpTree.node (OpTree.node (OpTree.node (OpTree.node OpTree.leaf 17592202821648 OpTree.leaf) 17592202821808 OpTree.leaf) 17592370593808 (OpTree.node OpTree.leaf 17592370593968 OpTree.leaf)) 17617973018640 (OpTree.node (OpTree.node OpTree.leaf 17617973018800 OpTree.leaf) 17618140790800 (OpTree.node OpTree.leaf 17618140790960 OpTree.leaf))) 193514063265808 (OpTree.node (OpTree.node (OpTree.node OpTree.leaf 193514063265968 OpTree.leaf) 193514231037968 (OpTree.node OpTree.leaf 193514231038128 OpTree.leaf)) 193539833462800 (OpTree.node (OpTree.node OpTree.leaf 193539833462960 OpTree.leaf) 193540001234960 (OpTree.node OpTree.leaf 193540001235120 OpTree.leaf))))
def ops066 : List Nat := [193514231037968, 17592370593974, 193514063265974, 193514231038128, 17592202821808, 193514063265814, 17592370593814, 17617973018640, 193540001234960, 17618140790966, 193539833462966, 193540001235120, 17617973018800, 193539833462806, 17618140790806]
def tree066 : PdbModel.OpTree := (OpTree.node (OpTree.node (OpTree.node (OpTree.node (OpTree.node OpTree.leaf 17592202821648 OpTree.leaf) 17592202821808 OpTree.leaf) 17592370593814 (OpTree.node OpTree.leaf 17592370593974 OpTree.leaf)) 17617973018640 (OpTree.node (OpTree.node OpTree.leaf 17617973018800 OpTree.leaf) 17618140790806 (OpTree.node OpTree.leaf 17618140790966 OpTree.leaf))) 193514063265814 (OpTree.node (OpTree.node (OpTree.node OpTree.leaf 193514063265974 OpTree.leaf) 193514231037968 (OpTree.node OpTree.leaf 193514231038128 OpTree.leaf)) 193539833462806 (OpTree.node (OpTree.node OpTree.leaf 193539833462966 OpTree.leaf) 193540001234960 (OpTree.node OpTree.leaf 193540001235120 OpTree.leaf))))
def ops067 : List Nat := [193540000841744, 17592370593968, 193539833069744, 193514231038128, 17617972625584, 193514063265808, 17618140397584, 17617973018640, 193514231431184, 17618140790960, 193514063659184, 193540001235120, 17592203215024, 193539833462800, 17592370987024]
def tree067 : PdbModel.OpTree := (OpTree.node (OpTree.node (OpTree.node (OpTree.node (OpTree.node OpTree.leaf 17592202821648 OpTree.leaf) 17592203215024 OpTree.leaf) 17592370593968 (OpTree.node OpTree.leaf 17592370987024 OpTree.leaf)) 17617972625584 (OpTree.node (OpTree.node OpTree.leaf 17617973018640 OpTree.leaf) 17618140397584 (OpTree.node OpTree.leaf 17618140790960 OpTree.leaf))) 193514063265808 (OpTree.node (OpTree.node (OpTree.node OpTree.leaf 193514063659184 OpTree.leaf) 193514231038128 (OpTree.node OpTree.leaf 193514231431184 OpTree.leaf)) 193539833069744 (OpTree.node (OpTree.node OpTree.leaf 193539833462800 OpTree.leaf) 193540000841744 (OpTree.node OpTree.leaf 193540001235120 OpTree.leaf))))
def ops068 : List Nat := [193540000841744, 17618140397750, 193514063265974, 193514231038128, 17617972625584, 193539833069590, 17592370593814, 17617973018640, 193514231431184, 17592370987190, 193539833462966, 193540001235120, 17592203215024, 193514063659030, 17618140790806]
def tree068 : PdbModel.OpTree := (OpTree.node (OpTree.node (OpTree.node (OpTree.node (OpTree.node OpTree.leaf 17592202821648 OpTree.leaf) 17592203215024 OpTree.leaf) 17592370593814 (OpTree.node OpTree.leaf 17592370987190 OpTree.leaf)) 17617972625584 (OpTree.node (OpTree.node OpTree.leaf 17617973018640 OpTree.leaf) 17618140397750 (OpTree.node OpTree.leaf 17618140790806 OpTree.leaf))) 193514063265974 (OpTree.node (OpTree.node (OpTree.node OpTree.leaf 193514063659030 OpTree.leaf) 193514231038128 (OpTree.node OpTree.leaf 193514231431184 OpTree.leaf)) 193539833069590 (OpTree.node (OpTree.node OpTree.leaf 193539833462966 OpTree.leaf) 193540000841744 (OpTree.node OpTree.leaf 193540001235120 OpTree.leaf))))
def ops069 : List Nat := [193514231037968, 17592370593968, 193514063265968, 193514231038128, 17592202821808, 193514063265808, 17592370593808, 17592203214870, 193514231431190, 17592370987190, 193514063659190, 193514231431350, 17592203215030, 193514063659030, 17592370987030, 17617972625430, 193540000841750, 17618140397750, 193539833069750, 193540000841910, 17617972625590, 193539833069590, 17618140397590, 17617973018640, 193540001234960, 17618140790960, 193539833462960, 193540001235120, 17617973018800, 193539833462800, 17618140790800]
def tree069 : PdbModel.OpTree := (OpTree.node (OpTree.node (OpTree.node (OpTree.node (OpTree.node (OpTree.node OpTree.leaf 17592202821648 OpTree.leaf) 17592202821808 OpTree.leaf) 17592203214870 (OpTree.node OpTree.leaf 17592203215030 OpTree.leaf)) 17592370593808 (OpTree.node (OpTree.node OpTree.leaf 17592370593968 OpTree.leaf) 17592370987030 (OpTree.node OpTree.leaf 17592370987190 OpTree.leaf))) 17617972625430 (OpTree.node (OpTree.node (OpTree.node OpTree.leaf 17617972625590 OpTree.leaf) 17617973018640 (OpTree.node OpTree.leaf 17617973018800 OpTree.leaf)) 17618140397590 (OpTree.node (OpTree.node OpTree.leaf 17618140397750 OpTree.leaf) 17618140790800 (OpTree.node OpTree.leaf 17618140790960 OpTree.leaf)))) 193514063265808 (OpTree.node (OpTree.node (OpTree.node (OpTree.node OpTree.leaf 193514063265968 OpTree.leaf) 193514063659030 (OpTree.node OpTree.leaf 193514063659190 OpTree.leaf)) 193514231037968 (OpTree.node (OpTree.node OpTree.leaf 193514231038128 OpTree.leaf) 193514231431190 (OpTree.node OpTree.leaf 193514231431350 OpTree.leaf))) 193539833069590 (OpTree.node (OpTree.node (OpTree.node OpTree.leaf 193539833069750 OpTree.leaf) 193539833462800 (OpTree.node OpTree.leaf 193539833462960 OpTree.leaf)) 193540000841750 (OpTree.node (OpTree.node OpTree.leaf 193540000841910 OpTree.leaf) 193540001234960 (OpTree.node OpTree.leaf 193540001235120 OpTree.leaf)))))
def ops070 : List Nat := [193527116136464, 17592370790579, 193526948167859, 193514231038128, 17630858117296, 193514063855641, 17631025299481, 17592203214870, 193527116529686, 17592371183801, 193526948561081, 193514231431350, 17630857724086, 193514063462419, 17631025692691, 17617972625430, 193552885940246, 17618140594361, 193552717971641, 193540000841910, 17605088313526, 193539833659411, 17605255495699, 17617973018640, 193552886333456, 17618140987571, 193552718364851, 193540001235120, 17605087920304, 193539833266201, 17605255888921]
def tree070 : PdbModel.OpTree := (OpTree.node (OpTree.node (OpTree.node (OpTree.node (OpTree.node (OpTree.node OpTree.leaf 17592202821648 OpTree.leaf) 17592203214870 OpTree.leaf) 17592370790579 (OpTree.node OpTree.leaf 17592371183801 OpTree.leaf)) 17605087920304 (OpTree.node (OpTree.node OpTree.leaf 17605088313526 OpTree.leaf) 17605255495699 (OpTree.node OpTree.leaf 17605255888921 OpTree.leaf))) 17617972625430 (OpTree.node (OpTree.node (OpTree.node OpTree.leaf 17617973018640 OpTree.leaf) 17618140594361 (OpTree.node OpTree.leaf 17618140987571 OpTree.leaf)) 17630857724086 (OpTree.node (OpTree.node OpTree.leaf 17630858117296 OpTree.leaf) 17631025299481 (OpTree.node OpTree.leaf 17631025692691 OpTree.leaf)))) 193514063462419 (OpTree.node (OpTree.node (OpTree.node (OpTree.node OpTree.leaf 193514063855641 OpTree.leaf) 193514231038128 (OpTree.node OpTree.leaf 193514231431350 OpTree.leaf)) 193526948167859 (OpTree.node (OpTree.node OpTree.leaf 193526948561081 OpTree.leaf) 193527116136464 (OpTree.node OpTree.leaf 193527116529686 OpTree.leaf))) 193539833266201 (OpTree.node (OpTree.node (OpTree.node OpTree.leaf 193539833659411 OpTree.leaf) 193540000841910 (OpTree.node OpTree.leaf 193540001235120 OpTree.leaf)) 193552717971641 (OpTree.node (OpTree.node OpTree.leaf 193552718364851 OpTree.leaf) 193552885940246 (OpTree.node OpTree.leaf 193552886333456 OpTree.leaf)))))
def ops071 : List Nat := [193514231037968, 17592370593968, 193514063265968, 193514231038128, 17592202821808, 193514063265808, 17592370593808, 17617973018646, 193540001234966, 17618140790966, 193539833462966, 193540001235126, 17617973018806, 193539833462806, 17618140790806]
def tree071 : PdbModel.OpTree := (OpTree.node (OpTree.node (OpTree.node (OpTree.node (OpTree.node OpTree.leaf 17592202821648 OpTree.leaf) 17592202821808 OpTree.leaf) 17592370593808 (OpTree.node OpTree.leaf 17592370593968 OpTree.leaf)) 17617973018646 (OpTree.node (OpTree.node OpTree.leaf 17617973018806 OpTree.leaf) 17618140790806 (OpTree.node OpTree.leaf 17618140790966 OpTree.leaf))) 193514063265808 (OpTree.node (OpTree.node (OpTree.node OpTree.leaf 193514063265968 OpTree.leaf) 193514231037968 (OpTree.node OpTree.leaf 193514231038128 OpTree.leaf)) 193539833462806 (OpTree.node (OpTree.node OpTree.leaf 193539833462966 OpTree.leaf) 193540001234966 (OpTree.node OpTree.leaf 193540001235126 OpTree.leaf))))
def ops072 : List Nat := [193514231037968, 17592370593974, 193514063265974, 193514231038128, 17592202821808, 193514063265814, 17592370593814, 17617973018646, 193540001234966, 17618140790960, 193539833462960, 193540001235126, 17617973018806, 193539833462800, 17618140790800]
def tree072 : PdbModel.OpTree := (OpTree.node (OpTree.node (OpTree.node (OpTree.node (OpTree.node OpTree.leaf 17592202821648 OpTree.leaf) 17592202821808 OpTree.leaf) 17592370593814 (OpTree.node OpTree.leaf 17592370593974 OpTree.leaf)) 17617973018646 (OpTree.node (OpTree.node OpTree.leaf 17617973018806 OpTree.leaf) 17618140790800 (OpTree.node OpTree.leaf 17618140790960 OpTree.leaf))) 193514063265814 (OpTree.node (OpTree.node (OpTree.node OpTree.leaf 193514063265974 OpTree.leaf) 193514231037968 (OpTree.node OpTree.leaf 193514231038128 OpTree.leaf)) 193539833462800 (OpTree.node (OpTree.node OpTree.leaf 193539833462960 OpTree.leaf) 193540001234966 (OpTree.node OpTree.leaf 193540001235126 OpTree.leaf))))
def ops073 : List Nat := [193514231431184, 17592370593974, 193514063659190, 193514231038128, 17592203215024, 193514063265814, 17592370987030, 17617973018646, 193540000841750, 17618140790960, 193539833069744, 193540001235126, 17617972625590, 193539833462800, 17618140397584]
def tree073 : PdbModel.OpTree := (OpTree.node (OpTree.node (OpTree.node (OpTree.node (OpTree.node OpTree.leaf 17592202821648 OpTree.leaf) 17592203215024 OpTree.leaf) 17592370593974 (OpTree.node OpTree.leaf 17592370987030 OpTree.leaf)) 17617972625590 (OpTree.node (OpTree.node OpTree.leaf 17617973018646 OpTree.leaf) 17618140397584 (OpTree.node OpTree.leaf 17618140790960 OpTree.leaf))) 193514063265814 (OpTree.node (OpTree.node (OpTree.node OpTree.leaf 193514063659190 OpTree.leaf) 193514231038128 (OpTree.node OpTree.leaf 193514231431184 OpTree.leaf)) 193539833069744 (OpTree.node (OpTree.node OpTree.leaf 193539833462800 OpTree.leaf) 193540000841750 (OpTree.node OpTree.leaf 193540001235126 OpTree.leaf))))
def ops074 : List Nat := [193514231431184, 17592370593968, 193514063659184, 193514231038128, 17592203215024, 193514063265808, 17592370987024, 17617973018646, 193540000841750, 17618140790966, 193539833069750, 193540001235126, 17617972625590, 193539833462806, 17618140397590]
def tree074 : PdbModel.OpTree := (OpTree.node (OpTree.node (OpTree.node (OpTree.node (OpTree.node OpTree.leaf 17592202821648 OpTree.leaf) 17592203215024 OpTree.leaf) 17592370593968 (OpTree.node OpTree.leaf 17592370987024 OpTree.leaf)) 17617972625590 (OpTree.node (OpTree.node OpTree.leaf 17617973018646 OpTree.leaf) 17618140397590 (OpTree.node OpTree.leaf 17618140790966 OpTree.leaf))) 193514063265808 (OpTree.node (OpTree.node (OpTree.node OpTree.leaf 193514063659184 OpTree.leaf) 193514231038128 (OpTree.node OpTree.leaf 193514231431184 OpTree.leaf)) 193539833069750 (OpTree.node (OpTree.node OpTree.leaf 193539833462806 OpTree.leaf) 193540000841750 (OpTree.node OpTree.leaf 193540001235126 OpTree.leaf))))
def ops075 : List Nat := [12094896341008, 193514231037968, 1102464417808]
def tree075 : PdbModel.OpTree := (OpTree.node (OpTree.node (OpTree.node OpTree.leaf 1102464417808 OpTree.leaf) 12094896341008 OpTree.leaf) 17592202821648 (OpTree.node OpTree.leaf 193514231037968 OpTree.leaf))
def ops076 : List Nat := [12094896341011, 193514231037974, 1102464417817]
def tree076 : PdbModel.OpTree := (OpTree.node (OpTree.node (OpTree.node OpTree.leaf 1102464417817 OpTree.leaf) 12094896341011 OpTree.leaf) 17592202821648 (OpTree.node OpTree.leaf 193514231037974 OpTree.leaf))
def ops077 : List Nat := [12094896341014, 193514231037968, 1102464417814]
def tree077 : PdbModel.OpTree := (OpTree.node (OpTree.node (OpTree.node OpTree.leaf 1102464417814 OpTree.leaf) 12094896341014 OpTree.leaf) 17592202821648 (OpTree.node OpTree.leaf 193514231037968 OpTree.leaf))
def ops078 : List Nat := [12094896341017, 193514231037974, 1102464417811]
def tree078 : PdbModel.OpTree := (OpTree.node (OpTree.node (OpTree.node OpTree.leaf 1102464417811 OpTree.leaf) 12094896341017 OpTree.leaf) 17592202821648 (OpTree.node OpTree.leaf 193514231037974 OpTree.leaf))
def ops079 : List Nat := [12094896341008, 193514231037968, 1102464417808, 17617973018646, 12120666538006, 193540001234966, 1128234614806]
def tree079 : PdbModel.OpTree := (OpTree.node (OpTree.node (OpTree.node (OpTree.node OpTree.leaf 1102464417808 OpTree.leaf) 1128234614806 OpTree.leaf) 12094896341008 (OpTree.node OpTree.leaf 12120666538006 OpTree.leaf)) 17592202821648 (OpTree.node (OpTree.node OpTree.leaf 17617973018646 OpTree.leaf) 193514231037968 (OpTree.node OpTree.leaf 193540001234966 OpTree.leaf)))
def ops080 : List Nat := [12094896734227, 193540001234966, 1128234221593, 17617973018646, 12120666144793, 193514231037968, 1102464811027]
def tree080 : PdbModel.OpTree := (OpTree.node (OpTree.node (OpTree.node (OpTree.node OpTree.leaf 1102464811027 OpTree.leaf) 1128234221593 OpTree.leaf) 12094896734227 (OpTree.node OpTree.leaf 12120666144793 OpTree.leaf)) 17592202821648 (OpTree.node (OpTree.node OpTree.leaf 17617973018646 OpTree.leaf) 193514231037968 (OpTree.node OpTree.leaf 193540001234966 OpTree.leaf)))
def ops081 : List Nat := [1102464417968, 193514231037968, 12094896341168]
def tree081 : PdbModel.OpTree := (OpTree.node (OpTree.node (OpTree.node OpTree.leaf 1102464417968 OpTree.leaf) 12094896341168 OpTree.leaf) 17592202821648 (OpTree.node OpTree.leaf 193514231037968 OpTree.leaf))
def ops082 : List Nat := [1102464417968, 193514231037968, 12094896341168, 17617973018646, 1128234614966, 193540001234966, 12120666538166]
def tree082 : PdbModel.OpTree := (OpTree.node (OpTree.node (OpTree.node (OpTree.node OpTree.leaf 1102464417968 OpTree.leaf) 1128234614966 OpTree.leaf) 12094896341168 (OpTree.node OpTree.leaf 12120666538166 OpTree.leaf)) 17592202821648 (OpTree.node (OpTree.node OpTree.leaf 17617973018646 OpTree.leaf) 193514231037968 (OpTree.node OpTree.leaf 193540001234966 OpTree.leaf)))
def ops083 : List Nat := [12094896341008, 193514231037968, 1102464417808, 193514231038128, 1102464417968, 17592202821808, 12094896341168]
def tree083 : PdbModel.OpTree := (OpTree.node (OpTree.node (OpTree.node (OpTree.node OpTree.leaf 1102464417808 OpTree.leaf) 1102464417968 OpTree.leaf) 12094896341008 (OpTree.node OpTree.leaf 12094896341168 OpTree.leaf)) 17592202821648 (OpTree.node (OpTree.node OpTree.leaf 17592202821808 OpTree.leaf) 193514231037968 (OpTree.node OpTree.leaf 193514231038128 OpTree.leaf)))
def ops084 : List Nat := [12094896341014, 193514231037968, 1102464417814, 193514231038128, 1102464417974, 17592202821808, 12094896341174]
def tree084 : PdbModel.OpTree := (OpTree.node (OpTree.node (OpTree.node (OpTree.node OpTree.leaf 1102464417814 OpTree.leaf) 1102464417974 OpTree.leaf) 12094896341014 (OpTree.node OpTree.leaf 12094896341174 OpTree.leaf)) 17592202821648 (OpTree.node (OpTree.node OpTree.leaf 17592202821808 OpTree.leaf) 193514231037968 (OpTree.node OpTree.leaf 193514231038128 OpTree.leaf)))
def ops085 : List Nat := [12120666144784, 193540001234960, 1102464811024, 193514231038128, 1128234221744, 17617973018800, 12094896734384]
def tree085 : PdbModel.OpTree := (OpTree.node (OpTree.node (OpTree.node (OpTree.node OpTree.leaf 1102464811024 OpTree.leaf) 1128234221744 OpTree.leaf) 12094896734384 (OpTree.node OpTree.leaf 12120666144784 OpTree.leaf)) 17592202821648 (OpTree.node (OpTree.node OpTree.leaf 17617973018800 OpTree.leaf) 193514231038128 (OpTree.node OpTree.leaf 193540001234960 OpTree.leaf)))
def ops086 : List Nat := [12094896734230, 193540001234960, 1128234221590, 193514231038128, 1102464811190, 17617973018800, 12120666144950]
def tree086 : PdbModel.OpTree := (OpTree.node (OpTree.node (OpTree.node (OpTree.node OpTree.leaf 1102464811190 OpTree.leaf) 1128234221590 OpTree.leaf) 12094896734230 (OpTree.node OpTree.leaf 12120666144950 OpTree.leaf)) 17592202821648 (OpTree.node (OpTree.node OpTree.leaf 17617973018800 OpTree.leaf) 193514231038128 (OpTree.node OpTree.leaf 193540001234960 OpTree.leaf)))
def ops087 : List Nat := [12094896341008, 193514231037968, 1102464417808, 193514231038128, 1102464417968, 17592202821808, 12094896341168, 17617973018646, 12120666538006, 193540001234966, 1128234614806, 193540001235126, 1128234614966, 17617973018806, 12120666538166]
def tree087 : PdbModel.OpTree := (OpTree.node (OpTree.node (OpTree.node (OpTree.node (OpTree.node OpTree.leaf 1102464417808 OpTree.leaf) 1102464417968 OpTree.leaf) 1128234614806 (OpTree.node OpTree.leaf 1128234614966 OpTree.leaf)) 12094896341008 (OpTree.node (OpTree.node OpTree.leaf 12094896341168 OpTree.leaf) 12120666538006 (OpTree.node OpTree.leaf 12120666538166 OpTree.leaf))) 17592202821648 (OpTree.node (OpTree.node (OpTree.node OpTree.leaf 17592202821808 OpTree.leaf) 17617973018646 (OpTree.node OpTree.leaf 17617973018806 OpTree.leaf)) 193514231037968 (OpTree.node (OpTree.node OpTree.leaf 193514231038128 OpTree.leaf) 193540001234966 (OpTree.node OpTree.leaf 193540001235126 OpTree.leaf))))
def ops088 : List Nat := [12133551243283, 193540000841750, 1141119713305, 193514231038128, 1115349909689, 17617972625590, 12107781439667, 17617973018646, 12107781832729, 193514231431184, 1115349516307, 193540001235126, 1141119320243, 17592203215024, 12133551636665]
def tree088 : PdbModel.OpTree := (OpTree.node (OpTree.node (OpTree.node (OpTree.node (OpTree.node OpTree.leaf 1115349516307 OpTree.leaf) 1115349909689 OpTree.leaf) 1141119320243 (OpTree.node OpTree.leaf 1141119713305 OpTree.leaf)) 12107781439667 (OpTree.node (OpTree.node OpTree.leaf 12107781832729 OpTree.leaf) 12133551243283 (OpTree.node OpTree.leaf 12133551636665 OpTree.leaf))) 17592202821648 (OpTree.node (OpTree.node (OpTree.node OpTree.leaf 17592203215024 OpTree.leaf) 17617972625590 (OpTree.node OpTree.leaf 17617973018646 OpTree.leaf)) 193514231038128 (OpTree.node (OpTree.node OpTree.leaf 193514231431184 OpTree.leaf) 193540000841750 (OpTree.node OpTree.leaf 193540001235126 OpTree.leaf))))
def ops089 : List Nat := [12094896341008, 193514231037968, 1102464417808, 17592370593968, 1099780063408, 193514063265968, 12097580695728]
def tree089 : PdbModel.OpTree := (OpTree.node (OpTree.node (OpTree.node (OpTree.node OpTree.leaf 1099780063408 OpTree.leaf) 1102464417808 OpTree.leaf) 12094896341008 (OpTree.node OpTree.leaf 12097580695728 OpTree.leaf)) 17592202821648 (OpTree.node (OpTree.node OpTree.leaf 17592370593968 OpTree.leaf) 193514063265968 (OpTree.node OpTree.leaf 193514231037968 OpTree.leaf)))
def ops090 : List Nat := [12120666538000, 193514231037968, 1128234614800, 17618140790960, 1099780063408, 193539833462960, 12097580695728]
def tree090 : PdbModel.OpTree := (OpTree.node (OpTree.node (OpTree.node (OpTree.node OpTree.leaf 1099780063408 OpTree.leaf) 1128234614800 OpTree.leaf) 12097580695728 (OpTree.node OpTree.leaf 12120666538000 OpTree.leaf)) 17592202821648 (OpTree.node (OpTree.node OpTree.leaf 17618140790960 OpTree.leaf) 193514231037968 (OpTree.node OpTree.leaf 193539833462960 OpTree.leaf)))
def ops091 : List Nat := [12094896341011, 193514231037974, 1102464417817, 17592370593974, 1099780063417, 193514063265968, 12097580695731]
def tree091 : PdbModel.OpTree := (OpTree.node (OpTree.node (OpTree.node (OpTree.node OpTree.leaf 1099780063417 OpTree.leaf) 1102464417817 OpTree.leaf) 12094896341011 (OpTree.node OpTree.leaf 12097580695731 OpTree.leaf)) 17592202821648 (OpTree.node (OpTree.node OpTree.leaf 17592370593974 OpTree.leaf) 193514063265968 (OpTree.node OpTree.leaf 193514231037974 OpTree.leaf)))
def ops092 : List Nat := [12120666538003, 193514231037974, 1128234614809, 17618140790969, 1099780063408, 193539833462963, 12097580695734]
def tree092 : PdbModel.OpTree := (OpTree.node (OpTree.node (OpTree.node (OpTree.node OpTree.leaf 1099780063408 OpTree.leaf) 1128234614809 OpTree.leaf) 12097580695734 (OpTree.node OpTree.leaf 12120666538003 OpTree.leaf)) 17592202821648 (OpTree.node (OpTree.node OpTree.leaf 17618140790969 OpTree.leaf) 193514231037974 (OpTree.node OpTree.leaf 193539833462963 OpTree.leaf)))
def ops093 : List Nat := [12094896341014, 193514231037968, 1102464417814, 17592370593968, 1099780063414, 193514063265968, 12097580695734]
def tree093 : PdbModel.OpTree := (OpTree.node (OpTree.node (OpTree.node (OpTree.node OpTree.leaf 1099780063414 OpTree.leaf) 1102464417814 OpTree.leaf) 12094896341014 (OpTree.node OpTree.leaf 12097580695734 OpTree.leaf)) 17592202821648 (OpTree.node (OpTree.node OpTree.leaf 17592370593968 OpTree.leaf) 193514063265968 (OpTree.node OpTree.leaf 193514231037968 OpTree.leaf)))
def ops094 : List Nat := [12120666538006, 193514231037968, 1128234614806, 17618140790966, 1099780063408, 193539833462966, 12097580695728]
def tree094 : PdbModel.OpTree := (OpTree.node (OpTree.node (OpTree.node (OpTree.node OpTree.leaf 1099780063408 OpTree.leaf) 1128234614806 OpTree.leaf) 12097580695728 (OpTree.node OpTree.leaf 12120666538006 OpTree.leaf)) 17592202821648 (OpTree.node (OpTree.node OpTree.leaf 17618140790966 OpTree.leaf) 193514231037968 (OpTree.node OpTree.leaf 193539833462966 OpTree.leaf)))
def ops095 : List Nat := [12094896341017, 193514231037974, 1102464417811, 17592370593974, 1099780063411, 193514063265968, 12097580695737]
def tree095 : PdbModel.OpTree := (OpTree.node (OpTree.node (OpTree.node (OpTree.node OpTree.leaf 1099780063411 OpTree.leaf) 1102464417811 OpTree.leaf) 12094896341017 (OpTree.node OpTree.leaf 12097580695737 OpTree.leaf)) 17592202821648 (OpTree.node (OpTree.node OpTree.leaf 17592370593974 OpTree.leaf) 193514063265968 (OpTree.node OpTree.leaf 193514231037974 OpTree.leaf)))
def ops096 : List Nat := [12120666538009, 193514231037974, 1128234614803, 17618140790963, 1099780063408, 193539833462969, 12097580695734]
def tree096 : PdbModel.OpTree := (OpTree.node (OpTree.node (OpTree.node (OpTree.node OpTree.leaf 1099780063408 OpTree.leaf) 1128234614803 OpTree.leaf) 12097580695734 (OpTree.node OpTree.leaf 12120666538009 OpTree.leaf)) 17592202821648 (OpTree.node (OpTree.node OpTree.leaf 17618140790963 OpTree.leaf) 193514231037974 (OpTree.node OpTree.leaf 193539833462969 OpTree.leaf)))
def ops097 : List Nat := [12094896341008, 193514231037968, 1102464417808, 17592370593968, 1099780063408, 193514063265968, 12097580695728, 17617973018646, 12120666538006, 193540001234966, 1128234614806, 17618140790966, 1125550260406, 193539833462966, 12123350892726]
def tree097 : PdbModel.OpTree := (OpTree.node (OpTree.node (OpTree.node (OpTree.node (OpTree.node OpTree.leaf 1099780063408 OpTree.leaf) 1102464417808 OpTree.leaf) 1125550260406 (OpTree.node OpTree.leaf 1128234614806 OpTree.leaf)) 12094896341008 (OpTree.node (OpTree.node OpTree.leaf 12097580695728 OpTree.leaf) 12120666538006 (OpTree.node OpTree.leaf 12123350892726 OpTree.leaf))) 17592202821648 (OpTree.node (OpTree.node (OpTree.node OpTree.leaf 17592370593968 OpTree.leaf) 17617973018646 (OpTree.node OpTree.leaf 17618140790966 OpTree.leaf)) 193514063265968 (OpTree.node (OpTree.node OpTree.leaf 193514231037968 OpTree.leaf) 193539833462966 (OpTree.node OpTree.leaf 193540001234966 OpTree.leaf))))
def ops098 : List Nat := [12094896734227, 193540001234966, 1128234221593, 17592370987187, 1125550260406, 193539833069753, 12097580695728, 17617973018646, 12120666144793, 193514231037968, 1102464811027, 17618140397753, 1099780063408, 193514063659187, 12123350892726]
def tree098 : PdbModel.OpTree := (OpTree.node (OpTree.node (OpTree.node (OpTree.node (OpTree.node OpTree.leaf 1099780063408 OpTree.leaf) 1102464811027 OpTree.leaf) 1125550260406 (OpTree.node OpTree.leaf 1128234221593 OpTree.leaf)) 12094896734227 (OpTree.node (OpTree.node OpTree.leaf 12097580695728 OpTree.leaf) 12120666144793 (OpTree.node OpTree.leaf 12123350892726 OpTree.leaf))) 17592202821648 (OpTree.node (OpTree.node (OpTree.node OpTree.leaf 17592370987187 OpTree.leaf) 17617973018646 (OpTree.node OpTree.leaf 17618140397753 OpTree.leaf)) 193514063659187 (OpTree.node (OpTree.node OpTree.leaf 193514231037968 OpTree.leaf) 193539833069753 (OpTree.node OpTree.leaf 193540001234966 OpTree.leaf))))
def ops099 : List Nat := [12094896341008, 193514231037968, 1102464417808, 193514063265808, 12097580695568, 17592370593808, 1099780063248]
def tree099 : PdbModel.OpTree := (OpTree.node (OpTree.node (OpTree.node (OpTree.node OpTree.leaf 1099780063248 OpTree.leaf) 1102464417808 OpTree.leaf) 12094896341008 (OpTree.node OpTree.leaf 12097580695568 OpTree.leaf)) 17592202821648 (OpTree.node (OpTree.node OpTree.leaf 17592370593808 OpTree.leaf) 193514063265808 (OpTree.node OpTree.leaf 193514231037968 OpTree.leaf)))
def ops100 : List Nat := [12094896341008, 193514231037968, 1102464417808, 193539833462800, 12123350892560, 17618140790800, 1125550260240]
def tree100 : PdbModel.OpTree := (OpTree.node (OpTree.node (OpTree.node (OpTree.node OpTree.leaf 1102464417808 OpTree.leaf) 1125550260240 OpTree.leaf) 12094896341008 (OpTree.node OpTree.leaf 12123350892560 OpTree.leaf)) 17592202821648 (OpTree.node (OpTree.node OpTree.leaf 17618140790800 OpTree.leaf) 193514231037968 (OpTree.node OpTree.leaf 193539833462800 OpTree.leaf)))
def ops101 : List Nat := [12094896341014, 193514231037968, 1102464417814, 193514063265814, 12097580695568, 17592370593814, 1099780063248]
def tree101 : PdbModel.OpTree := (OpTree.node (OpTree.node (OpTree.node (OpTree.node OpTree.leaf 1099780063248 OpTree.leaf) 1102464417814 OpTree.leaf) 12094896341014 (OpTree.node OpTree.leaf 12097580695568 OpTree.leaf)) 17592202821648 (OpTree.node (OpTree.node OpTree.leaf 17592370593814 OpTree.leaf) 193514063265814 (OpTree.node OpTree.leaf 193514231037968 OpTree.leaf)))
def ops102 : List Nat := [12120666538006, 193514231037968, 1128234614806, 193539833462806, 12097580695568, 17618140790806, 1099780063248]
def tree102 : PdbModel.OpTree := (OpTree.node (OpTree.node (OpTree.node (OpTree.node OpTree.leaf 1099780063248 OpTree.leaf) 1128234614806 OpTree.leaf) 12097580695568 (OpTree.node OpTree.leaf 12120666538006 OpTree.leaf)) 17592202821648 (OpTree.node (OpTree.node OpTree.leaf 17618140790806 OpTree.leaf) 193514231037968 (OpTree.node OpTree.leaf 193539833462806 OpTree.leaf)))
def ops103 : List Nat := [12094896341008, 193514231037968, 1102464417808, 193514063265814, 12097580695574, 17592370593814, 1099780063254]
def tree103 : PdbModel.OpTree := (OpTree.node (OpTree.node (OpTree.node (OpTree.node OpTree.leaf 1099780063254 OpTree.leaf) 1102464417808 OpTree.leaf) 12094896341008 (OpTree.node OpTree.leaf 12097580695574 OpTree.leaf)) 17592202821648 (OpTree.node (OpTree.node OpTree.leaf 17592370593814 OpTree.leaf) 193514063265814 (OpTree.node OpTree.leaf 193514231037968 OpTree.leaf)))
def ops104 : List Nat := [12094896341008, 193514231037968, 1102464417808, 193539833462806, 12123350892566, 17618140790806, 1125550260246]
def tree104 : PdbModel.OpTree := (OpTree.node (OpTree.node (OpTree.node (OpTree.node OpTree.leaf 1102464417808 OpTree.leaf) 1125550260246 OpTree.leaf) 12094896341008 (OpTree.node OpTree.leaf 12123350892566 OpTree.leaf)) 17592202821648 (OpTree.node (OpTree.node OpTree.leaf 17618140790806 OpTree.leaf) 193514231037968 (OpTree.node OpTree.leaf 193539833462806 OpTree.leaf)))
def ops105 : List Nat := [12094896341014, 193514231037968, 1102464417814, 193514063265808, 12097580695574, 17592370593808, 1099780063254]
def tree105 : PdbModel.OpTree := (OpTree.node (OpTree.node (OpTree.node (OpTree.node OpTree.leaf 1099780063254 OpTree.leaf) 1102464417814 OpTree.leaf) 12094896341014 (OpTree.node OpTree.leaf 12097580695574 OpTree.leaf)) 17592202821648 (OpTree.node (OpTree.node OpTree.leaf 17592370593808 OpTree.leaf) 193514063265808 (OpTree.node OpTree.leaf 193514231037968 OpTree.leaf)))
def ops106 : List Nat := [12094896341014, 193514231037968, 1102464417814, 193539833462800, 12123350892566, 17618140790800, 1125550260246]
def tree106 : PdbModel.OpTree := (OpTree.node (OpTree.node (OpTree.node (OpTree.node OpTree.leaf 1102464417814 OpTree.leaf) 1125550260246 OpTree.leaf) 12094896341014 (OpTree.node OpTree.leaf 12123350892566 OpTree.leaf)) 17592202821648 (OpTree.node (OpTree.node OpTree.leaf 17618140790800 OpTree.leaf) 193514231037968 (OpTree.node OpTree.leaf 193539833462800 OpTree.leaf)))
def ops107 : List Nat := [12094896341008, 193514231037968, 1102464417808, 193514063265808, 12097580695568, 17592370593808, 1099780063248, 17617973018646, 12120666538006, 193540001234966, 1128234614806, 193539833462806, 12123350892566, 17618140790806, 1125550260246]
def tree107 : PdbModel.OpTree := (OpTree.node (OpTree.node (OpTree.node (OpTree.node (OpTree.node OpTree.leaf 1099780063248 OpTree.leaf) 1102464417808 OpTree.leaf) 1125550260246 (OpTree.node OpTree.leaf 1128234614806 OpTree.leaf)) 12094896341008 (OpTree.node (OpTree.node OpTree.leaf 12097580695568 OpTree.leaf) 12120666538006 (OpTree.node OpTree.leaf 12123350892566 OpTree.leaf))) 17592202821648 (OpTree.node (OpTree.node (OpTree.node OpTree.leaf 17592370593808 OpTree.leaf) 17617973018646 (OpTree.node OpTree.leaf 17618140790806 OpTree.leaf)) 193514063265808 (OpTree.node (OpTree.node OpTree.leaf 193514231037968 OpTree.leaf) 193539833462806 (OpTree.node OpTree.leaf 193540001234966 OpTree.leaf))))
def ops108 : List Nat := [12094896341008, 193514231037968, 1102464417808, 193514063265814, 12097580695574, 17592370593814, 1099780063254, 17617973018646, 12120666538006, 193540001234966, 1128234614806, 193539833462800, 12123350892560, 17618140790800, 1125550260240]
def tree108 : PdbModel.OpTree := (OpTree.node (OpTree.node (OpTree.node (OpTree.node (OpTree.node OpTree.leaf 1099780063254 OpTree.leaf) 1102464417808 OpTree.leaf) 1125550260240 (OpTree.node OpTree.leaf 1128234614806 OpTree.leaf)) 12094896341008 (OpTree.node (OpTree.node OpTree.leaf 12097580695574 OpTree.leaf) 12120666538006 (OpTree.node OpTree.leaf 12123350892560 OpTree.leaf))) 17592202821648 (OpTree.node (OpTree.node (OpTree.node OpTree.leaf 17592370593814 OpTree.leaf) 17617973018646 (OpTree.node OpTree.leaf 17618140790800 OpTree.leaf)) 193514063265814 (OpTree.node (OpTree.node OpTree.leaf 193514231037968 OpTree.leaf) 193539833462800 (OpTree.node OpTree.leaf 193540001234966 OpTree.leaf))))
def ops109 : List Nat := [12094896734227, 193540001234966, 1128234221593, 193514063265808, 12097581088787, 17618140790806, 1125549867033, 17617973018646, 12120666144793, 193514231037968, 1102464811027, 193539833462806, 12123350499353, 17592370593808, 1099780456467]
def tree109 : PdbModel.OpTree := (OpTree.node (OpTree.node (OpTree.node (OpTree.node (OpTree.node OpTree.leaf 1099780456467 OpTree.leaf) 1102464811027 OpTree.leaf) 1125549867033 (OpTree.node OpTree.leaf 1128234221593 OpTree.leaf)) 12094896734227 (OpTree.node (OpTree.node OpTree.leaf 12097581088787 OpTree.leaf) 12120666144793 (OpTree.node OpTree.leaf 12123350499353 OpTree.leaf))) 17592202821648 (OpTree.node (OpTree.node (OpTree.node OpTree.leaf 17592370593808 OpTree.leaf) 17617973018646 (OpTree.node OpTree.leaf 17618140790806 OpTree.leaf)) 193514063265808 (OpTree.node (OpTree.node OpTree.leaf 193514231037968 OpTree.leaf) 193539833462806 (OpTree.node OpTree.leaf 193540001234966 OpTree.leaf))))
def ops110 : List Nat := [12094896734227, 193540001234966, 1128234221593, 193514063265814, 12097581088793, 17618140790800, 1125549867027, 17617973018646, 12120666144793, 193514231037968, 1102464811027, 193539833462800, 12123350499347, 17592370593814, 1099780456473]
def tree110 : PdbModel.OpTree := (OpTree.node (OpTree.node (OpTree.node (OpTree.node (OpTree.node OpTree.leaf 1099780456473 OpTree.leaf) 1102464811027 OpTree.leaf) 1125549867027 (OpTree.node OpTree.leaf 1128234221593 OpTree.leaf)) 12094896734227 (OpTree.node (OpTree.node OpTree.leaf 12097581088793 OpTree.leaf) 12120666144793 (OpTree.node OpTree.leaf 12123350499347 OpTree.leaf))) 17592202821648 (OpTree.node (OpTree.node (OpTree.node OpTree.leaf 17592370593814 OpTree.leaf) 17617973018646 (OpTree.node OpTree.leaf 17618140790800 OpTree.leaf)) 193514063265814 (OpTree.node (OpTree.node OpTree.leaf 193514231037968 OpTree.leaf) 193539833462800 (OpTree.node OpTree.leaf 193540001234966 OpTree.leaf))))
def ops111 : List Nat := [1102464417968, 193514231037968, 12094896341168, 17592370593968, 12097580695568, 193514063265968, 1099780063248]
def tree111 : PdbModel.OpTree := (OpTree.node (OpTree.node (OpTree.node (OpTree.node OpTree.leaf 1099780063248 OpTree.leaf) 1102464417968 OpTree.leaf) 12094896341168 (OpTree.node OpTree.leaf 12097580695568 OpTree.leaf)) 17592202821648 (OpTree.node (OpTree.node OpTree.leaf 17592370593968 OpTree.leaf) 193514063265968 (OpTree.node OpTree.leaf 193514231037968 OpTree.leaf)))
def ops112 : List Nat := [1102464417968, 193514231037968, 12094896341168, 17592370593974, 12097580695574, 193514063265974, 1099780063254]
def tree112 : PdbModel.OpTree := (OpTree.node (OpTree.node (OpTree.node (OpTree.node OpTree.leaf 1099780063254 OpTree.leaf) 1102464417968 OpTree.leaf) 12094896341168 (OpTree.node OpTree.leaf 12097580695574 OpTree.leaf)) 17592202821648 (OpTree.node (OpTree.node OpTree.leaf 17592370593974 OpTree.leaf) 193514063265974 (OpTree.node OpTree.leaf 193514231037968 OpTree.leaf)))
def ops113 : List Nat := [1102464417968, 193514231037968, 12094896341168, 17618140790960, 12123350892560, 193539833462960, 1125550260240]
def tree113 : PdbModel.OpTree := (OpTree.node (OpTree.node (OpTree.node (OpTree.node OpTree.leaf 1102464417968 OpTree.leaf) 1125550260240 OpTree.leaf) 12094896341168 (OpTree.node OpTree.leaf 12123350892560 OpTree.leaf)) 17592202821648 (OpTree.node (OpTree.node OpTree.leaf 17618140790960 OpTree.leaf) 193514231037968 (OpTree.node OpTree.leaf 193539833462960 OpTree.leaf)))
def ops114 : List Nat := [1102464417968, 193514231037968, 12094896341168, 17618140790966, 12123350892566, 193539833462966, 1125550260246]
def tree114 : PdbModel.OpTree := (OpTree.node (OpTree.node (OpTree.node (OpTree.node OpTree.leaf 1102464417968 OpTree.leaf) 1125550260246 OpTree.leaf) 12094896341168 (OpTree.node OpTree.leaf 12123350892566 OpTree.leaf)) 17592202821648 (OpTree.node (OpTree.node OpTree.leaf 17618140790966 OpTree.leaf) 193514231037968 (OpTree.node OpTree.leaf 193539833462966 OpTree.leaf)))
def ops115 : List Nat := [1102464417968, 193514231037968, 12094896341168, 193514063265808, 1099780063408, 17592370593808, 12097580695728]
def tree115 : PdbModel.OpTree := (OpTree.node (OpTree.node (OpTree.node (OpTree.node OpTree.leaf 1099780063408 OpTree.leaf) 1102464417968 OpTree.leaf) 12094896341168 (OpTree.node OpTree.leaf 12097580695728 OpTree.leaf)) 17592202821648 (OpTree.node (OpTree.node OpTree.leaf 17592370593808 OpTree.leaf) 193514063265808 (OpTree.node OpTree.leaf 193514231037968 OpTree.leaf)))
def ops116 : List Nat := [1102464417968, 193514231037968, 12094896341168, 193514063265814, 1099780063414, 17592370593814, 12097580695734]
def tree116 : PdbModel.OpTree := (OpTree.node (OpTree.node (OpTree.node (OpTree.node OpTree.leaf 1099780063414 OpTree.leaf) 1102464417968 OpTree.leaf) 12094896341168 (OpTree.node OpTree.leaf 12097580695734 OpTree.leaf)) 17592202821648 (OpTree.node (OpTree.node OpTree.leaf 17592370593814 OpTree.leaf) 193514063265814 (OpTree.node OpTree.leaf 193514231037968 OpTree.leaf)))
def ops117 : List Nat := [1102464417968, 193514231037968, 12094896341168, 193539833462800, 1125550260400, 17618140790800, 12123350892720]
def tree117 : PdbModel.OpTree := (OpTree.node (OpTree.node (OpTree.node (OpTree.node OpTree.leaf 1102464417968 OpTree.leaf) 1125550260400 OpTree.leaf) 12094896341168 (OpTree.node OpTree.leaf 12123350892720 OpTree.leaf)) 17592202821648 (OpTree.node (OpTree.node OpTree.leaf 17618140790800 OpTree.leaf) 193514231037968 (OpTree.node OpTree.leaf 193539833462800 OpTree.leaf)))
def ops118 : List Nat := [1102464417968, 193514231037968, 12094896341168, 193539833462806, 1125550260406, 17618140790806, 12123350892726]
def tree118 : PdbModel.OpTree := (OpTree.node (OpTree.node (OpTree.node (OpTree.node OpTree.leaf 1102464417968 OpTree.leaf) 1125550260406 OpTree.leaf) 12094896341168 (OpTree.node OpTree.leaf 12123350892726 OpTree.leaf)) 17592202821648 (OpTree.node (OpTree.node OpTree.leaf 17618140790806 OpTree.leaf) 193514231037968 (OpTree.node OpTree.leaf 193539833462806 OpTree.leaf)))
def ops119 : List Nat := [1102464417968, 193514231037968, 12094896341168, 193514063265808, 1099780063408, 17592370593808, 12097580695728, 17617973018646, 1128234614966, 193540001234966, 12120666538166, 193539833462806, 1125550260406, 17618140790806, 12123350892726]
def tree119 : PdbModel.OpTree := (OpTree.node (OpTree.node (OpTree.node (OpTree.node (OpTree.node OpTree.leaf 1099780063408 OpTree.leaf) 1102464417968 OpTree.leaf) 1125550260406 (OpTree.node OpTree.leaf 1128234614966 OpTree.leaf)) 12094896341168 (OpTree.node (OpTree.node OpTree.leaf 12097580695728 OpTree.leaf) 12120666538166 (OpTree.node OpTree.leaf 12123350892726 OpTree.leaf))) 17592202821648 (OpTree.node (OpTree.node (OpTree.node OpTree.leaf 17592370593808 OpTree.leaf) 17617973018646 (OpTree.node OpTree.leaf 17618140790806 OpTree.leaf)) 193514063265808 (OpTree.node (OpTree.node OpTree.leaf 193514231037968 OpTree.leaf) 193539833462806 (OpTree.node OpTree.leaf 193540001234966 OpTree.leaf))))
def ops120 : List Nat := [1102464417968, 193514231037968, 12094896341168, 193514063265814, 1099780063414, 17592370593814, 12097580695734, 17617973018646, 1128234614966, 193540001234966, 12120666538166, 193539833462800, 1125550260400, 17618140790800, 12123350892720]
def tree120 : PdbModel.OpTree := (OpTree.node (OpTree.node (OpTree.node (OpTree.node (OpTree.node OpTree.leaf 1099780063414 OpTree.leaf) 1102464417968 OpTree.leaf) 1125550260400 (OpTree.node OpTree.leaf 1128234614966 OpTree.leaf)) 12094896341168 (OpTree.node (OpTree.node OpTree.leaf 12097580695734 OpTree.leaf) 12120666538166 (OpTree.node OpTree.leaf 12123350892720 OpTree.leaf))) 17592202821648 (OpTree.node (OpTree.node (OpTree.node OpTree.leaf 17592370593814 OpTree.leaf) 17617973018646 (OpTree.node OpTree.leaf 17618140790800 OpTree.leaf)) 193514063265814 (OpTree.node (OpTree.node OpTree.leaf 193514231037968 OpTree.leaf) 193539833462800 (OpTree.node OpTree.leaf 193540001234966 OpTree.leaf))))
def ops121 : List Nat := [1102464417968, 193514231037968, 12094896341168, 17592370593968, 12097580695568, 193514063265968, 1099780063248, 17617973018646, 1128234614966, 193540001234966, 12120666538166, 17618140790966, 12123350892566, 193539833462966, 1125550260246]
def tree121 : PdbModel.OpTree := (OpTree.node (OpTree.node (OpTree.node (OpTree.node (OpTree.node OpTree.leaf 1099780063248 OpTree.leaf) 1102464417968 OpTree.leaf) 1125550260246 (OpTree.node OpTree.leaf 1128234614966 OpTree.leaf)) 12094896341168 (OpTree.node (OpTree.node OpTree.leaf 12097580695568 OpTree.leaf) 12120666538166 (OpTree.node OpTree.leaf 12123350892566 OpTree.leaf))) 17592202821648 (OpTree.node (OpTree.node (OpTree.node OpTree.leaf 17592370593968 OpTree.leaf) 17617973018646 (OpTree.node OpTree.leaf 17618140790966 OpTree.leaf)) 193514063265968 (OpTree.node (OpTree.node OpTree.leaf 193514231037968 OpTree.leaf) 193539833462966 (OpTree.node OpTree.leaf 193540001234966 OpTree.leaf))))
def ops122 : List Nat := [1102464417968, 193514231037968, 12094896341168, 17592370987187, 12123350499353, 193514063659187, 1125549867033, 17617973018646, 1128234614966, 193540001234966, 12120666538166, 17618140397753, 12097581088787, 193539833069753, 1099780456467]
def tree122 : PdbModel.OpTree := (OpTree.node (OpTree.node (OpTree.node (OpTree.node (OpTree.node OpTree.leaf 1099780456467 OpTree.leaf) 1102464417968 OpTree.leaf) 1125549867033 (OpTree.node OpTree.leaf 1128234614966 OpTree.leaf)) 12094896341168 (OpTree.node (OpTree.node OpTree.leaf 12097581088787 OpTree.leaf) 12120666538166 (OpTree.node OpTree.leaf 12123350499353 OpTree.leaf))) 17592202821648 (OpTree.node (OpTree.node (OpTree.node OpTree.leaf 17592370987187 OpTree.leaf) 17617973018646 (OpTree.node OpTree.leaf 17618140397753 OpTree.leaf)) 193514063659187 (OpTree.node (OpTree.node OpTree.leaf 193514231037968 OpTree.leaf) 193539833069753 (OpTree.node OpTree.leaf 193540001234966 OpTree.leaf))))
def ops123 : List Nat := [12094896341008, 193514231037968, 1102464417808, 17592370593968, 1099780063408, 193514063265968, 12097580695728, 193514231038128, 1102464417968, 17592202821808, 12094896341168, 193514063265808, 12097580695568, 17592370593808, 1099780063248]
def tree123 : PdbModel.OpTree := (OpTree.node (OpTree.node (OpTree.node (OpTree.node (OpTree.node OpTree.leaf 1099780063248 OpTree.leaf) 1099780063408 OpTree.leaf) 1102464417808 (OpTree.node OpTree.leaf 1102464417968 OpTree.leaf)) 12094896341008 (OpTree.node (OpTree.node OpTree.leaf 12094896341168 OpTree.leaf) 12097580695568 (OpTree.node OpTree.leaf 12097580695728 OpTree.leaf))) 17592202821648 (OpTree.node (OpTree.node (OpTree.node OpTree.leaf 17592202821808 OpTree.leaf) 17592370593808 (OpTree.node OpTree.leaf 17592370593968 OpTree.leaf)) 193514063265808 (OpTree.node (OpTree.node OpTree.leaf 193514063265968 OpTree.leaf) 193514231037968 (OpTree.node OpTree.leaf 193514231038128 OpTree.leaf))))
def ops124 : List Nat := [12094896341008, 193514231037968, 1102464417808, 17592370593974, 1099780063414, 193514063265974, 12097580695734, 193514231038128, 1102464417968, 17592202821808, 12094896341168, 193514063265814, 12097580695574, 17592370593814, 1099780063254]
def tree124 : PdbModel.OpTree := (OpTree.node (OpTree.node (OpTree.node (OpTree.node (OpTree.node OpTree.leaf 1099780063254 OpTree.leaf) 1099780063414 OpTree.leaf) 1102464417808 (OpTree.node OpTree.leaf 1102464417968 OpTree.leaf)) 12094896341008 (OpTree.node (OpTree.node OpTree.leaf 12094896341168 OpTree.leaf) 12097580695574 (OpTree.node OpTree.leaf 12097580695734 OpTree.leaf))) 17592202821648 (OpTree.node (OpTree.node (OpTree.node OpTree.leaf 17592202821808 OpTree.leaf) 17592370593814 (OpTree.node OpTree.leaf 17592370593974 OpTree.leaf)) 193514063265814 (OpTree.node (OpTree.node OpTree.leaf 193514063265974 OpTree.leaf) 193514231037968 (OpTree.node OpTree.leaf 193514231038128 OpTree.leaf))))
def ops125 : List Nat := [12120666144784, 193540001234960, 1102464811024, 17592370987184, 1099780063408, 193539833069744, 12123350892720, 193514231038128, 1128234221744, 17617973018800, 12094896734384, 193514063659024, 12097580695568, 17618140397584, 1125550260240]
def tree125 : PdbModel.OpTree := (OpTree.node (OpTree.node (OpTree.node (OpTree.node (OpTree.node OpTree.leaf 1099780063408 OpTree.leaf) 1102464811024 OpTree.leaf) 1125550260240 (OpTree.node OpTree.leaf 1128234221744 OpTree.leaf)) 12094896734384 (OpTree.node (OpTree.node OpTree.leaf 12097580695568 OpTree.leaf) 12120666144784 (OpTree.node OpTree.leaf 12123350892720 OpTree.leaf))) 17592202821648 (OpTree.node (OpTree.node (OpTree.node OpTree.leaf 17592370987184 OpTree.leaf) 17617973018800 (OpTree.node OpTree.leaf 17618140397584 OpTree.leaf)) 193514063659024 (OpTree.node (OpTree.node OpTree.leaf 193514231038128 OpTree.leaf) 193539833069744 (OpTree.node OpTree.leaf 193540001234960 OpTree.leaf))))
def ops126 : List Nat := [12120666144784, 193540001234960, 1102464811024, 17592370987190, 1099780063414, 193539833069750, 12123350892726, 193514231038128, 1128234221744, 17617973018800, 12094896734384, 193514063659030, 12097580695574, 17618140397590, 1125550260246]
def tree126 : PdbModel.OpTree := (OpTree.node (OpTree.node (OpTree.node (OpTree.node (OpTree.node OpTree.leaf 1099780063414 OpTree.leaf) 1102464811024 OpTree.leaf) 1125550260246 (OpTree.node OpTree.leaf 1128234221744 OpTree.leaf)) 12094896734384 (OpTree.node (OpTree.node OpTree.leaf 12097580695574 OpTree.leaf) 12120666144784 (OpTree.node OpTree.leaf 12123350892726 OpTree.leaf))) 17592202821648 (OpTree.node (OpTree.node (OpTree.node OpTree.leaf 17592370987190 OpTree.leaf) 17617973018800 (OpTree.node OpTree.leaf 17618140397590 OpTree.leaf)) 193514063659030 (OpTree.node (OpTree.node OpTree.leaf 193514231038128 OpTree.leaf) 193539833069750 (OpTree.node OpTree.leaf 193540001234960 OpTree.leaf))))
def ops127 : List Nat := [12094896341008, 193514231037968, 1102464417808, 17618140790960, 1125550260400, 193539833462960, 12123350892720, 193514231038128, 1102464417968, 17592202821808, 12094896341168, 193539833462800, 12123350892560, 17618140790800, 1125550260240]
def tree127 : PdbModel.OpTree := (OpTree.node (OpTree.node (OpTree.node (OpTree.node (OpTree.node OpTree.leaf 1102464417808 OpTree.leaf) 1102464417968 OpTree.leaf) 1125550260240 (OpTree.node OpTree.leaf 1125550260400 OpTree.leaf)) 12094896341008 (OpTree.node (OpTree.node OpTree.leaf 12094896341168 OpTree.leaf) 12123350892560 (OpTree.node OpTree.leaf 12123350892720 OpTree.leaf))) 17592202821648 (OpTree.node (OpTree.node (OpTree.node OpTree.leaf 17592202821808 OpTree.leaf) 17618140790800 (OpTree.node OpTree.leaf 17618140790960 OpTree.leaf)) 193514231037968 (OpTree.node (OpTree.node OpTree.leaf 193514231038128 OpTree.leaf) 193539833462800 (OpTree.node OpTree.leaf 193539833462960 OpTree.leaf))))
def ops128 : List Nat := [12094896341008, 193514231037968, 1102464417808, 17618140790966, 1125550260406, 193539833462966, 12123350892726, 193514231038128, 1102464417968, 17592202821808, 12094896341168, 193539833462806, 12123350892566, 17618140790806, 1125550260246]
def tree128 : PdbModel.OpTree := (OpTree.node (OpTree.node (OpTree.node (OpTree.node (OpTree.node OpTree.leaf 1102464417808 OpTree.leaf) 1102464417968 OpTree.leaf) 1125550260246 (OpTree.node OpTree.leaf 1125550260406 OpTree.leaf)) 12094896341008 (OpTree.node (OpTree.node OpTree.leaf 12094896341168 OpTree.leaf) 12123350892566 (OpTree.node OpTree.leaf 12123350892726 OpTree.leaf))) 17592202821648 (OpTree.node (OpTree.node (OpTree.node OpTree.leaf 17592202821808 OpTree.leaf) 17618140790806 (OpTree.node OpTree.leaf 17618140790966 OpTree.leaf)) 193514231037968 (OpTree.node (OpTree.node OpTree.leaf 193514231038128 OpTree.leaf) 193539833462806 (OpTree.node OpTree.leaf 193539833462966 OpTree.leaf))))
def ops129 : List Nat := [12120666144784, 193540001234960, 1102464811024, 17618140397744, 1125550260400, 193514063659184, 12097580695728, 193514231038128, 1128234221744, 17617973018800, 12094896734384, 193539833069584, 12123350892560, 17592370987024, 1099780063248]
def tree129 : PdbModel.OpTree := (OpTree.node (OpTree.node (OpTree.node (OpTree.node (OpTree.node OpTree.leaf 1099780063248 OpTree.leaf) 1102464811024 OpTree.leaf) 1125550260400 (OpTree.node OpTree.leaf 1128234221744 OpTree.leaf)) 12094896734384 (OpTree.node (OpTree.node OpTree.leaf 12097580695728 OpTree.leaf) 12120666144784 (OpTree.node OpTree.leaf 12123350892560 OpTree.leaf))) 17592202821648 (OpTree.node (OpTree.node (OpTree.node OpTree.leaf 17592370987024 OpTree.leaf) 17617973018800 (OpTree.node OpTree.leaf 17618140397744 OpTree.leaf)) 193514063659184 (OpTree.node (OpTree.node OpTree.leaf 193514231038128 OpTree.leaf) 193539833069584 (OpTree.node OpTree.leaf 193540001234960 OpTree.leaf))))
def ops130 : List Nat := [12120666144784, 193540001234960, 1102464811024, 17618140397750, 1125550260406, 193514063659190, 12097580695734, 193514231038128, 1128234221744, 17617973018800, 12094896734384, 193539833069590, 12123350892566, 17592370987030, 1099780063254]
def tree130 : PdbModel.OpTree := (OpTree.node (OpTree.node (OpTree.node (OpTree.node (OpTree.node OpTree.leaf 1099780063254 OpTree.leaf) 1102464811024 OpTree.leaf) 1125550260406 (OpTree.node OpTree.leaf 1128234221744 OpTree.leaf)) 12094896734384 (OpTree.node (OpTree.node OpTree.leaf 12097580695734 OpTree.leaf) 12120666144784 (OpTree.node OpTree.leaf 12123350892566 OpTree.leaf))) 17592202821648 (OpTree.node (OpTree.node (OpTree.node OpTree.leaf 17592370987030 OpTree.leaf) 17617973018800 (OpTree.node OpTree.leaf 17618140397750 OpTree.leaf)) 193514063659190 (OpTree.node (OpTree.node OpTree.leaf 193514231038128 OpTree.leaf) 193539833069590 (OpTree.node OpTree.leaf 193540001234960 OpTree.leaf))))
def ops131 : List Nat := [12094896341014, 193514231037968, 1102464417814, 17592370593968, 1099780063414, 193514063265968, 12097580695734, 193514231038128, 1102464417974, 17592202821808, 12094896341174, 193514063265808, 12097580695574, 17592370593808, 1099780063254]
def tree131 : PdbModel.OpTree := (OpTree.node (OpTree.node (OpTree.node (OpTree.node (OpTree.node OpTree.leaf 1099780063254 OpTree.leaf) 1099780063414 OpTree.leaf) 1102464417814 (OpTree.node OpTree.leaf 1102464417974 OpTree.leaf)) 12094896341014 (OpTree.node (OpTree.node OpTree.leaf 12094896341174 OpTree.leaf) 12097580695574 (OpTree.node OpTree.leaf 12097580695734 OpTree.leaf))) 17592202821648 (OpTree.node (OpTree.node (OpTree.node OpTree.leaf 17592202821808 OpTree.leaf) 17592370593808 (OpTree.node OpTree.leaf 17592370593968 OpTree.leaf)) 193514063265808 (OpTree.node (OpTree.node OpTree.leaf 193514063265968 OpTree.leaf) 193514231037968 (OpTree.node OpTree.leaf 193514231038128 OpTree.leaf))))
def ops132 : List Nat := [12094896341014, 193514231037968, 1102464417814, 17592370593974, 1099780063408, 193514063265974, 12097580695728, 193514231038128, 1102464417974, 17592202821808, 12094896341174, 193514063265814, 12097580695568, 17592370593814, 1099780063248]
def tree132 : PdbModel.OpTree := (OpTree.node (OpTree.node (OpTree.node (OpTree.node (OpTree.node OpTree.leaf 1099780063248 OpTree.leaf) 1099780063408 OpTree.leaf) 1102464417814 (OpTree.node OpTree.leaf 1102464417974 OpTree.leaf)) 12094896341014 (OpTree.node (OpTree.node OpTree.leaf 12094896341174 OpTree.leaf) 12097580695568 (OpTree.node OpTree.leaf 12097580695728 OpTree.leaf))) 17592202821648 (OpTree.node (OpTree.node (OpTree.node OpTree.leaf 17592202821808 OpTree.leaf) 17592370593814 (OpTree.node OpTree.leaf 17592370593974 OpTree.leaf)) 193514063265814 (OpTree.node (OpTree.node OpTree.leaf 193514063265974 OpTree.leaf) 193514231037968 (OpTree.node OpTree.leaf 193514231038128 OpTree.leaf))))
def ops133 : List Nat := [12120666144790, 193540001234960, 1102464811030, 17592370987184, 1099780063414, 193539833069744, 12123350892726, 193514231038128, 1128234221750, 17617973018800, 12094896734390, 193514063659024, 12097580695574, 17618140397584, 1125550260246]
def tree133 : PdbModel.OpTree := (OpTree.node (OpTree.node (OpTree.node (OpTree.node (OpTree.node OpTree.leaf 1099780063414 OpTree.leaf) 1102464811030 OpTree.leaf) 1125550260246 (OpTree.node OpTree.leaf 1128234221750 OpTree.leaf)) 12094896734390 (OpTree.node (OpTree.node OpTree.leaf 12097580695574 OpTree.leaf) 12120666144790 (OpTree.node OpTree.leaf 12123350892726 OpTree.leaf))) 17592202821648 (OpTree.node (OpTree.node (OpTree.node OpTree.leaf 17592370987184 OpTree.leaf) 17617973018800 (OpTree.node OpTree.leaf 17618140397584 OpTree.leaf)) 193514063659024 (OpTree.node (OpTree.node OpTree.leaf 193514231038128 OpTree.leaf) 193539833069744 (OpTree.node OpTree.leaf 193540001234960 OpTree.leaf))))
def ops134 : List Nat := [12120666144790, 193540001234960, 1102464811030, 17592370987190, 1099780063408, 193539833069750, 12123350892720, 193514231038128, 1128234221750, 17617973018800, 12094896734390, 193514063659030, 12097580695568, 17618140397590, 1125550260240]
def tree134 : PdbModel.OpTree := (OpTree.node (OpTree.node (OpTree.node (OpTree.node (OpTree.node OpTree.leaf 1099780063408 OpTree.leaf) 1102464811030 OpTree.leaf) 1125550260240 (OpTree.node OpTree.leaf 1128234221750 OpTree.leaf)) 12094896734390 (OpTree.node (OpTree.node OpTree.leaf 12097580695568 OpTree.leaf) 12120666144790 (OpTree.node OpTree.leaf 12123350892720 OpTree.leaf))) 17592202821648 (OpTree.node (OpTree.node (OpTree.node OpTree.leaf 17592370987190 OpTree.leaf) 17617973018800 (OpTree.node OpTree.leaf 17618140397590 OpTree.leaf)) 193514063659030 (OpTree.node (OpTree.node OpTree.leaf 193514231038128 OpTree.leaf) 193539833069750 (OpTree.node OpTree.leaf 193540001234960 OpTree.leaf))))
def ops135 : List Nat := [12094896341014, 193514231037968, 1102464417814, 17618140790960, 1125550260406, 193539833462960, 12123350892726, 193514231038128, 1102464417974, 17592202821808, 12094896341174, 193539833462800, 12123350892566, 17618140790800, 1125550260246]
def tree135 : PdbModel.OpTree := (OpTree.node (OpTree.node (OpTree.node (OpTree.node (OpTree.node OpTree.leaf 1102464417814 OpTree.leaf) 1102464417974 OpTree.leaf) 1125550260246 (OpTree.node OpTree.leaf 1125550260406 OpTree.leaf)) 12094896341014 (OpTree.node (OpTree.node OpTree.leaf 12094896341174 OpTree.leaf) 12123350892566 (OpTree.node OpTree.leaf 12123350892726 OpTree.leaf))) 17592202821648 (OpTree.node (OpTree.node (OpTree.node OpTree.leaf 17592202821808 OpTree.leaf) 17618140790800 (OpTree.node OpTree.leaf 17618140790960 OpTree.leaf)) 193514231037968 (OpTree.node (OpTree.node OpTree.leaf 193514231038128 OpTree.leaf) 193539833462800 (OpTree.node OpTree.leaf 193539833462960 OpTree.leaf))))
def ops136 : List Nat := [12120666538006, 193514231037968, 1128234614806, 17618140790966, 1099780063408, 193539833462966, 12097580695728, 193514231038128, 1128234614966, 17592202821808, 12120666538166, 193539833462806, 12097580695568, 17618140790806, 1099780063248]
def tree136 : PdbModel.OpTree := (OpTree.node (OpTree.node (OpTree.node (OpTree.node (OpTree.node OpTree.leaf 1099780063248 OpTree.leaf) 1099780063408 OpTree.leaf) 1128234614806 (OpTree.node OpTree.leaf 1128234614966 OpTree.leaf)) 12097580695568 (OpTree.node (OpTree.node OpTree.leaf 12097580695728 OpTree.leaf) 12120666538006 (OpTree.node OpTree.leaf 12120666538166 OpTree.leaf))) 17592202821648 (OpTree.node (OpTree.node (OpTree.node OpTree.leaf 17592202821808 OpTree.leaf) 17618140790806 (OpTree.node OpTree.leaf 17618140790966 OpTree.leaf)) 193514231037968 (OpTree.node (OpTree.node OpTree.leaf 193514231038128 OpTree.leaf) 193539833462806 (OpTree.node OpTree.leaf 193539833462966 OpTree.leaf))))
def ops137 : List Nat := [12120666144790, 193540001234960, 1102464811030, 17618140397744, 1125550260406, 193514063659184, 12097580695734, 193514231038128, 1128234221750, 17617973018800, 12094896734390, 193539833069584, 12123350892566, 17592370987024, 1099780063254]
def tree137 : PdbModel.OpTree := (OpTree.node (OpTree.node (OpTree.node (OpTree.node (OpTree.node OpTree.leaf 1099780063254 OpTree.leaf) 1102464811030 OpTree.leaf) 1125550260406 (OpTree.node OpTree.leaf 1128234221750 OpTree.leaf)) 12094896734390 (OpTree.node (OpTree.node OpTree.leaf 12097580695734 OpTree.leaf) 12120666144790 (OpTree.node OpTree.leaf 12123350892566 OpTree.leaf))) 17592202821648 (OpTree.node (OpTree.node (OpTree.node OpTree.leaf 17592370987024 OpTree.leaf) 17617973018800 (OpTree.node OpTree.leaf 17618140397744 OpTree.leaf)) 193514063659184 (OpTree.node (OpTree.node OpTree.leaf 193514231038128 OpTree.leaf) 193539833069584 (OpTree.node OpTree.leaf 193540001234960 OpTree.leaf))))
def ops138 : List Nat := [12120666144790, 193540001234960, 1102464811030, 17618140397750, 1125550260400, 193514063659190, 12097580695728, 193514231038128, 1128234221750, 17617973018800, 12094896734390, 193539833069590, 12123350892560, 17592370987030, 1099780063248]
def tree138 : PdbModel.OpTree := (OpTree.node (OpTree.node (OpTree.node (OpTree.node (OpTree.node OpTree.leaf 1099780063248 OpTree.leaf) 1102464811030 OpTree.leaf) 1125550260400 (OpTree.node OpTree.leaf 1128234221750 OpTree.leaf)) 12094896734390 (OpTree.node (OpTree.node OpTree.leaf 12097580695728 OpTree.leaf) 12120666144790 (OpTree.node OpTree.leaf 12123350892560 OpTree.leaf))) 17592202821648 (OpTree.node (OpTree.node (OpTree.node OpTree.leaf 17592370987030 OpTree.leaf) 17617973018800 (OpTree.node OpTree.leaf 17618140397750 OpTree.leaf)) 193514063659190 (OpTree.node (OpTree.node OpTree.leaf 193514231038128 OpTree.leaf) 193539833069590 (OpTree.node OpTree.leaf 193540001234960 OpTree.leaf))))
def ops139 : List Nat := [12094896341008, 193514231037968, 1102464417808, 17592370593968, 1099780063408, 193514063265968, 12097580695728, 193514231038128, 1102464417968, 17592202821808, 12094896341168, 193514063265808, 12097580695568, 17592370593808, 1099780063248, 17617973018646, 12120666538006, 193540001234966, 1128234614806, 17618140790966, 1125550260406, 193539833462966, 12123350892726, 193540001235126, 1128234614966, 17617973018806, 12120666538166, 193539833462806, 12123350892566, 17618140790806, 1125550260246]
def tree139 : PdbModel.OpTree := (OpTree.node (OpTree.node (OpTree.node (OpTree.node (OpTree.node (OpTree.node OpTree.leaf 1099780063248 OpTree.leaf) 1099780063408 OpTree.leaf) 1102464417808 (OpTree.node OpTree.leaf 1102464417968 OpTree.leaf)) 1125550260246 (OpTree.node (OpTree.node OpTree.leaf 1125550260406 OpTree.leaf) 1128234614806 (OpTree.node OpTree.leaf 1128234614966 OpTree.leaf))) 12094896341008 (OpTree.node (OpTree.node (OpTree.node OpTree.leaf 12094896341168 OpTree.leaf) 12097580695568 (OpTree.node OpTree.leaf 12097580695728 OpTree.leaf)) 12120666538006 (OpTree.node (OpTree.node OpTree.leaf 12120666538166 OpTree.leaf) 12123350892566 (OpTree.node OpTree.leaf 12123350892726 OpTree.leaf)))) 17592202821648 (OpTree.node (OpTree.node (OpTree.node (OpTree.node OpTree.leaf 17592202821808 OpTree.leaf) 17592370593808 (OpTree.node OpTree.leaf 17592370593968 OpTree.leaf)) 17617973018646 (OpTree.node (OpTree.node OpTree.leaf 17617973018806 OpTree.leaf) 17618140790806 (OpTree.node OpTree.leaf 17618140790966 OpTree.leaf))) 193514063265808 (OpTree.node (OpTree.node (OpTree.node OpTree.leaf 193514063265968 OpTree.leaf) 193514231037968 (OpTree.node OpTree.leaf 193514231038128 OpTree.leaf)) 193539833462806 (OpTree.node (OpTree.node OpTree.leaf 193539833462966 OpTree.leaf) 193540001234966 (OpTree.node OpTree.leaf 193540001235126 OpTree.leaf)))))
def ops140 : List Nat := [12094896341008, 193514231037968, 1102464417808, 17592370593974, 1099780063414, 193514063265974, 12097580695734, 193514231038128, 1102464417968, 17592202821808, 12094896341168, 193514063265814, 12097580695574, 17592370593814, 1099780063254, 17617973018646, 12120666538006, 193540001234966, 1128234614806, 17618140790960, 1125550260400, 193539833462960, 12123350892720, 193540001235126, 1128234614966, 17617973018806, 12120666538166, 193539833462800, 12123350892560, 17618140790800, 1125550260240]
def tree140 : PdbModel.OpTree := (OpTree.node (OpTree.node (OpTree.node (OpTree.node (OpTree.node (OpTree.node OpTree.leaf 1099780063254 OpTree.leaf) 1099780063414 OpTree.leaf) 1102464417808 (OpTree.node OpTree.leaf 1102464417968 OpTree.leaf)) 1125550260240 (OpTree.node (OpTree.node OpTree.leaf 1125550260400 OpTree.leaf) 1128234614806 (OpTree.node OpTree.leaf 1128234614966 OpTree.leaf))) 12094896341008 (OpTree.node (OpTree.node (OpTree.node OpTree.leaf 12094896341168 OpTree.leaf) 12097580695574 (OpTree.node OpTree.leaf 12097580695734 OpTree.leaf)) 12120666538006 (OpTree.node (OpTree.node OpTree.leaf 12120666538166 OpTree.leaf) 12123350892560 (OpTree.node OpTree.leaf 12123350892720 OpTree.leaf)))) 17592202821648 (OpTree.node (OpTree.node (OpTree.node (OpTree.node OpTree.leaf 17592202821808 OpTree.leaf) 17592370593814 (OpTree.node OpTree.leaf 17592370593974 OpTree.leaf)) 17617973018646 (OpTree.node (OpTree.node OpTree.leaf 17617973018806 OpTree.leaf) 17618140790800 (OpTree.node OpTree.leaf 17618140790960 OpTree.leaf))) 193514063265814 (OpTree.node (OpTree.node (OpTree.node OpTree.leaf 193514063265974 OpTree.leaf) 193514231037968 (OpTree.node OpTree.leaf 193514231038128 OpTree.leaf)) 193539833462800 (OpTree.node (OpTree.node OpTree.leaf 193539833462960 OpTree.leaf) 193540001234966 (OpTree.node OpTree.leaf 193540001235126 OpTree.leaf)))))
def ops141 : List Nat := [12107781832723, 193540000841750, 1115349516313, 17592370593968, 1112665555123, 193539833069750, 12110465794233, 193514231038128, 1141119320249, 17617972625590, 12133551636659, 193514063265808, 12136235597849, 17618140397590, 1138435358739, 17617973018646, 12133551243289, 193514231431184, 1141119713299, 17618140790966, 1138434965689, 193514063659184, 12136235991219, 193540001235126, 1115349909683, 17592203215024, 12107781439673, 193539833462806, 12110466187283, 17592370987024, 1112665161753]
def tree141 : PdbModel.OpTree := (OpTree.node (OpTree.node (OpTree.node (OpTree.node (OpTree.node (OpTree.node OpTree.leaf 1112665161753 OpTree.leaf) 1112665555123 OpTree.leaf) 1115349516313 (OpTree.node OpTree.leaf 1115349909683 OpTree.leaf)) 1138434965689 (OpTree.node (OpTree.node OpTree.leaf 1138435358739 OpTree.leaf) 1141119320249 (OpTree.node OpTree.leaf 1141119713299 OpTree.leaf))) 12107781439673 (OpTree.node (OpTree.node (OpTree.node OpTree.leaf 12107781832723 OpTree.leaf) 12110465794233 (OpTree.node OpTree.leaf 12110466187283 OpTree.leaf)) 12133551243289 (OpTree.node (OpTree.node OpTree.leaf 12133551636659 OpTree.leaf) 12136235597849 (OpTree.node OpTree.leaf 12136235991219 OpTree.leaf)))) 17592202821648 (OpTree.node (OpTree.node (OpTree.node (OpTree.node OpTree.leaf 17592203215024 OpTree.leaf) 17592370593968 (OpTree.node OpTree.leaf 17592370987024 OpTree.leaf)) 17617972625590 (OpTree.node (OpTree.node OpTree.leaf 17617973018646 OpTree.leaf) 17618140397590 (OpTree.node OpTree.leaf 17618140790966 OpTree.leaf))) 193514063265808 (OpTree.node (OpTree.node (OpTree.node OpTree.leaf 193514063659184 OpTree.leaf) 193514231038128 (OpTree.node OpTree.leaf 193514231431184 OpTree.leaf)) 193539833069750 (OpTree.node (OpTree.node OpTree.leaf 193539833462806 OpTree.leaf) 193540000841750 (OpTree.node OpTree.leaf 193540001235126 OpTree.leaf)))))
def ops142 : List Nat := [12107781832723, 193540000841750, 1115349516313, 17592370593974, 1112665555129, 193539833069744, 12110465794227, 193514231038128, 1141119320249, 17617972625590, 12133551636659, 193514063265814, 12136235597843, 17618140397584, 1138435358745, 17617973018646, 12133551243289, 193514231431184, 1141119713299, 17618140790960, 1138434965683, 193514063659190, 12136235991225, 193540001235126, 1115349909683, 17592203215024, 12107781439673, 193539833462800, 12110466187289, 17592370987030, 1112665161747]
def tree142 : PdbModel.OpTree := (OpTree.node (OpTree.node (OpTree.node (OpTree.node (OpTree.node (OpTree.node OpTree.leaf 1112665161747 OpTree.leaf) 1112665555129 OpTree.leaf) 1115349516313 (OpTree.node OpTree.leaf 1115349909683 OpTree.leaf)) 1138434965683 (OpTree.node (OpTree.node OpTree.leaf 1138435358745 OpTree.leaf) 1141119320249 (OpTree.node OpTree.leaf 1141119713299 OpTree.leaf))) 12107781439673 (OpTree.node (OpTree.node (OpTree.node OpTree.leaf 12107781832723 OpTree.leaf) 12110465794227 (OpTree.node OpTree.leaf 12110466187289 OpTree.leaf)) 12133551243289 (OpTree.node (OpTree.node OpTree.leaf 12133551636659 OpTree.leaf) 12136235597843 (OpTree.node OpTree.leaf 12136235991225 OpTree.leaf)))) 17592202821648 (OpTree.node (OpTree.node (OpTree.node (OpTree.node OpTree.leaf 17592203215024 OpTree.leaf) 17592370593974 (OpTree.node OpTree.leaf 17592370987030 OpTree.leaf)) 17617972625590 (OpTree.node (OpTree.node OpTree.leaf 17617973018646 OpTree.leaf) 17618140397584 (OpTree.node OpTree.leaf 17618140790960 OpTree.leaf))) 193514063265814 (OpTree.node (OpTree.node (OpTree.node OpTree.leaf 193514063659190 OpTree.leaf) 193514231038128 (OpTree.node OpTree.leaf 193514231431184 OpTree.leaf)) 193539833069744 (OpTree.node (OpTree.node OpTree.leaf 193539833462800 OpTree.leaf) 193540000841750 (OpTree.node OpTree.leaf 193540001235126 OpTree.leaf)))))
def ops143 : List Nat := [12095080890384, 194616510906384]
def tree143 : PdbModel.OpTree := (OpTree.node (OpTree.node OpTree.leaf 12095080890384 OpTree.leaf) 17592202821648 (OpTree.node OpTree.leaf 194616510906384 OpTree.leaf))
def ops144 : List Nat := [12095080890388, 194616510906392]
def tree144 : PdbModel.OpTree := (OpTree.node (OpTree.node OpTree.leaf 12095080890388 OpTree.leaf) 17592202821648 (OpTree.node OpTree.leaf 194616510906392 OpTree.leaf))
def ops145 : List Nat := [12095080890392, 194616510906388]
def tree145 : PdbModel.OpTree := (OpTree.node (OpTree.node OpTree.leaf 12095080890392 OpTree.leaf) 17592202821648 (OpTree.node OpTree.leaf 194616510906388 OpTree.leaf))
def ops146 : List Nat := [12095080890384, 194616510906384, 17626562822164, 12129440890900, 194650870906900, 17609383215128, 12112261283864, 194633691299864]
def tree146 : PdbModel.OpTree := (OpTree.node (OpTree.node (OpTree.node (OpTree.node OpTree.leaf 12095080890384 OpTree.leaf) 12112261283864 OpTree.leaf) 12129440890900 (OpTree.node OpTree.leaf 17592202821648 OpTree.leaf)) 17609383215128 (OpTree.node (OpTree.node (OpTree.node OpTree.leaf 17626562822164 OpTree.leaf) 194616510906384 OpTree.leaf) 194633691299864 (OpTree.node OpTree.leaf 194650870906900 OpTree.leaf)))
def ops147 : List Nat := [12095080890384, 194616510906384, 193514231038128, 1102481195184, 29687082385584]
def tree147 : PdbModel.OpTree := (OpTree.node (OpTree.node (OpTree.node OpTree.leaf 1102481195184 OpTree.leaf) 12095080890384 (OpTree.node OpTree.leaf 17592202821648 OpTree.leaf)) 29687082385584 (OpTree.node (OpTree.node OpTree.leaf 193514231038128 OpTree.leaf) 194616510906384 OpTree.leaf))
def ops148 : List Nat := [12095080890384, 194616510906384, 193514231038128, 1102481195184, 29687082385584, 17626562822164, 12129440890900, 194650870906900, 193548591038644, 1136841195700, 29721442386100, 17609383215128, 12112261283864, 194633691299864, 193531411431608, 1119661588664, 29704262779064]
def tree148 : PdbModel.OpTree := (OpTree.node (OpTree.node (OpTree.node (OpTree.node (OpTree.node OpTree.leaf 1102481195184 OpTree.leaf) 1119661588664 OpTree.leaf) 1136841195700 (OpTree.node OpTree.leaf 12095080890384 OpTree.leaf)) 12112261283864 (OpTree.node (OpTree.node (OpTree.node OpTree.leaf 12129440890900 OpTree.leaf) 17592202821648 OpTree.leaf) 17609383215128 (OpTree.node OpTree.leaf 17626562822164 OpTree.leaf))) 29687082385584 (OpTree.node (OpTree.node (OpTree.node (OpTree.node OpTree.leaf 29704262779064 OpTree.leaf) 29721442386100 OpTree.leaf) 193514231038128 (OpTree.node OpTree.leaf 193531411431608 OpTree.leaf)) 193548591038644 (OpTree.node (OpTree.node OpTree.leaf 194616510906384 OpTree.leaf) 194633691299864 (OpTree.node OpTree.leaf 194650870906900 OpTree.leaf))))
def ops149 : List Nat := [12095080890384, 194616510906384, 12097580695728, 17592639029424, 194613574893744]
def tree149 : PdbModel.OpTree := (OpTree.node (OpTree.node (OpTree.node OpTree.leaf 12095080890384 OpTree.leaf) 12097580695728 (OpTree.node OpTree.leaf 17592202821648 OpTree.leaf)) 17592639029424 (OpTree.node (OpTree.node OpTree.leaf 194613574893744 OpTree.leaf) 194616510906384 OpTree.leaf))
def ops150 : List Nat := [12095080890384, 194616510906384, 1099780063408, 193517016055984, 29686998499504]
def tree150 : PdbModel.OpTree := (OpTree.node (OpTree.node (OpTree.node OpTree.leaf 1099780063408 OpTree.leaf) 12095080890384 (OpTree.node OpTree.leaf 17592202821648 OpTree.leaf)) 29686998499504 (OpTree.node (OpTree.node OpTree.leaf 193517016055984 OpTree.leaf) 194616510906384 OpTree.leaf))
def ops151 : List Nat := [12095080890388, 194616510906392, 12097580695736, 17592639029424, 194613574893748]
def tree151 : PdbModel.OpTree := (OpTree.node (OpTree.node (OpTree.node OpTree.leaf 12095080890388 OpTree.leaf) 12097580695736 (OpTree.node OpTree.leaf 17592202821648 OpTree.leaf)) 17592639029424 (OpTree.node (OpTree.node OpTree.leaf 194613574893748 OpTree.leaf) 194616510906392 OpTree.leaf))
def ops152 : List Nat := [12095080890388, 194616510906392, 1099780063408, 193517016055988, 29686998499512]
def tree152 : PdbModel.OpTree := (OpTree.node (OpTree.node (OpTree.node OpTree.leaf 1099780063408 OpTree.leaf) 12095080890388 (OpTree.node OpTree.leaf 17592202821648 OpTree.leaf)) 29686998499512 (OpTree.node (OpTree.node OpTree.leaf 193517016055988 OpTree.leaf) 194616510906392 OpTree.leaf))
def ops153 : List Nat := [12095080890392, 194616510906388, 12097580695732, 17592639029424, 194613574893752]
def tree153 : PdbModel.OpTree := (OpTree.node (OpTree.node (OpTree.node OpTree.leaf 12095080890392 OpTree.leaf) 12097580695732 (OpTree.node OpTree.leaf 17592202821648 OpTree.leaf)) 17592639029424 (OpTree.node (OpTree.node OpTree.leaf 194613574893752 OpTree.leaf) 194616510906388 OpTree.leaf))
def ops154 : List Nat := [12095080890392, 194616510906388, 1099780063408, 193517016055992, 29686998499508]
def tree154 : PdbModel.OpTree := (OpTree.node (OpTree.node (OpTree.node OpTree.leaf 1099780063408 OpTree.leaf) 12095080890392 (OpTree.node OpTree.leaf 17592202821648 OpTree.leaf)) 29686998499508 (OpTree.node (OpTree.node OpTree.leaf 193517016055992 OpTree.leaf) 194616510906388 OpTree.leaf))
def ops155 : List Nat := [12095080890384, 194616510906384, 1099780063408, 193517016055984, 29686998499504, 17626562822164, 12129440890900, 194650870906900, 1134140063924, 193551376056500, 29721358500020, 17609383215128, 12112261283864, 194633691299864, 1116960456888, 193534196449464, 29704178892984]
def tree155 : PdbModel.OpTree := (OpTree.node (OpTree.node (OpTree.node (OpTree.node (OpTree.node OpTree.leaf 1099780063408 OpTree.leaf) 1116960456888 OpTree.leaf) 1134140063924 (OpTree.node OpTree.leaf 12095080890384 OpTree.leaf)) 12112261283864 (OpTree.node (OpTree.node (OpTree.node OpTree.leaf 12129440890900 OpTree.leaf) 17592202821648 OpTree.leaf) 17609383215128 (OpTree.node OpTree.leaf 17626562822164 OpTree.leaf))) 29686998499504 (OpTree.node (OpTree.node (OpTree.node (OpTree.node OpTree.leaf 29704178892984 OpTree.leaf) 29721358500020 OpTree.leaf) 193517016055984 (OpTree.node OpTree.leaf 193534196449464 OpTree.leaf)) 193551376056500 (OpTree.node (OpTree.node OpTree.leaf 194616510906384 OpTree.leaf) 194633691299864 (OpTree.node OpTree.leaf 194650870906900 OpTree.leaf))))
def ops156 : List Nat := [12095080890384, 194616510906384, 12097580695568, 17592639029264, 194613574893584]
def tree156 : PdbModel.OpTree := (OpTree.node (OpTree.node (OpTree.node OpTree.leaf 12095080890384 OpTree.leaf) 12097580695568 (OpTree.node OpTree.leaf 17592202821648 OpTree.leaf)) 17592639029264 (OpTree.node (OpTree.node OpTree.leaf 194613574893584 OpTree.leaf) 194616510906384 OpTree.leaf))
def ops157 : List Nat := [12095080890384, 194616510906384, 1099780063248, 193517016055824, 29686998499344]
def tree157 : PdbModel.OpTree := (OpTree.node (OpTree.node (OpTree.node OpTree.leaf 1099780063248 OpTree.leaf) 12095080890384 (OpTree.node OpTree.leaf 17592202821648 OpTree.leaf)) 29686998499344 (OpTree.node (OpTree.node OpTree.leaf 193517016055824 OpTree.leaf) 194616510906384 OpTree.leaf))
def ops158 : List Nat := [12095080890384, 194616510906384, 12097580695574, 17592639029270, 194613574893590]
def tree158 : PdbModel.OpTree := (OpTree.node (OpTree.node (OpTree.node OpTree.leaf 12095080890384 OpTree.leaf) 12097580695574 (OpTree.node OpTree.leaf 17592202821648 OpTree.leaf)) 17592639029270 (OpTree.node (OpTree.node OpTree.leaf 194613574893590 OpTree.leaf) 194616510906384 OpTree.leaf))
def ops159 : List Nat := [12095080890384, 194616510906384, 1099780063254, 193517016055830, 29686998499350]
def tree159 : PdbModel.OpTree := (OpTree.node (OpTree.node (OpTree.node OpTree.leaf 1099780063254 OpTree.leaf) 12095080890384 (OpTree.node OpTree.leaf 17592202821648 OpTree.leaf)) 29686998499350 (OpTree.node (OpTree.node OpTree.leaf 193517016055830 OpTree.leaf) 194616510906384 OpTree.leaf))
def ops160 : List Nat := [12095080890384, 194616510906384, 12097580695568, 17592639029264, 194613574893584, 17626562822164, 12129440890900, 194650870906900, 12131940696084, 17626999029780, 194647934894100, 17609383215128, 12112261283864, 194633691299864, 12114761089048, 17609819422744, 194630755287064]
def tree160 : PdbModel.OpTree := (OpTree.node (OpTree.node (OpTree.node (OpTree.node (OpTree.node OpTree.leaf 12095080890384 OpTree.leaf) 12097580695568 OpTree.leaf) 12112261283864 (OpTree.node OpTree.leaf 12114761089048 OpTree.leaf)) 12129440890900 (OpTree.node (OpTree.node (OpTree.node OpTree.leaf 12131940696084 OpTree.leaf) 17592202821648 OpTree.leaf) 17592639029264 (OpTree.node OpTree.leaf 17609383215128 OpTree.leaf))) 17609819422744 (OpTree.node (OpTree.node (OpTree.node (OpTree.node OpTree.leaf 17626562822164 OpTree.leaf) 17626999029780 OpTree.leaf) 194613574893584 (OpTree.node OpTree.leaf 194616510906384 OpTree.leaf)) 194630755287064 (OpTree.node (OpTree.node OpTree.leaf 194633691299864 OpTree.leaf) 194647934894100 (OpTree.node OpTree.leaf 194650870906900 OpTree.leaf))))
def ops161 : List Nat := [12095080890384, 194616510906384, 12097580695574, 17592639029270, 194613574893590, 17626562822164, 12129440890900, 194650870906900, 12131940696090, 17626999029786, 194647934894106, 17609383215128, 12112261283864, 194633691299864, 12114761089042, 17609819422738, 194630755287058]
def tree161 : PdbModel.OpTree := (OpTree.node (OpTree.node (OpTree.node (OpTree.node (OpTree.node OpTree.leaf 12095080890384 OpTree.leaf) 12097580695574 OpTree.leaf) 12112261283864 (OpTree.node OpTree.leaf 12114761089042 OpTree.leaf)) 12129440890900 (OpTree.node (OpTree.node (OpTree.node OpTree.leaf 12131940696090 OpTree.leaf) 17592202821648 OpTree.leaf) 17592639029270 (OpTree.node OpTree.leaf 17609383215128 OpTree.leaf))) 17609819422738 (OpTree.node (OpTree.node (OpTree.node (OpTree.node OpTree.leaf 17626562822164 OpTree.leaf) 17626999029786 OpTree.leaf) 194613574893590 (OpTree.node OpTree.leaf 194616510906384 OpTree.leaf)) 194630755287058 (OpTree.node (OpTree.node OpTree.leaf 194633691299864 OpTree.leaf) 194647934894106 (OpTree.node OpTree.leaf 194650870906900 OpTree.leaf))))
def ops162 : List Nat := [12095080890384, 194616510906384, 12097580695728, 17592639029424, 194613574893744, 193514231038128, 1102481195184, 29687082385584, 1099780063248, 193517016055824, 29686998499344]
def tree162 : PdbModel.OpTree := (OpTree.node (OpTree.node (OpTree.node (OpTree.node OpTree.leaf 1099780063248 OpTree.leaf) 1102481195184 (OpTree.node OpTree.leaf 12095080890384 OpTree.leaf)) 12097580695728 (OpTree.node (OpTree.node OpTree.leaf 17592202821648 OpTree.leaf) 17592639029424 OpTree.leaf)) 29686998499344 (OpTree.node (OpTree.node (OpTree.node OpTree.leaf 29687082385584 OpTree.leaf) 193514231038128 OpTree.leaf) 193517016055824 (OpTree.node (OpTree.node OpTree.leaf 194613574893744 OpTree.leaf) 194616510906384 OpTree.leaf)))
def ops163 : List Nat := [12095080890384, 194616510906384, 12097580695734, 17592639029430, 194613574893750, 193514231038128, 1102481195184, 29687082385584, 1099780063254, 193517016055830, 29686998499350]
def tree163 : PdbModel.OpTree := (OpTree.node (OpTree.node (OpTree.node (OpTree.node OpTree.leaf 1099780063254 OpTree.leaf) 1102481195184 (OpTree.node OpTree.leaf 12095080890384 OpTree.leaf)) 12097580695734 (OpTree.node (OpTree.node OpTree.leaf 17592202821648 OpTree.leaf) 17592639029430 OpTree.leaf)) 29686998499350 (OpTree.node (OpTree.node (OpTree.node OpTree.leaf 29687082385584 OpTree.leaf) 193514231038128 OpTree.leaf) 193517016055830 (OpTree.node (OpTree.node OpTree.leaf 194613574893750 OpTree.leaf) 194616510906384 OpTree.leaf)))
def ops164 : List Nat := [12095080890384, 194616510906384, 1099780063408, 193517016055984, 29686998499504, 193514231038128, 1102481195184, 29687082385584, 12097580695568, 17592639029264, 194613574893584]
def tree164 : PdbModel.OpTree := (OpTree.node (OpTree.node (OpTree.node (OpTree.node OpTree.leaf 1099780063408 OpTree.leaf) 1102481195184 (OpTree.node OpTree.leaf 12095080890384 OpTree.leaf)) 12097580695568 (OpTree.node (OpTree.node OpTree.leaf 17592202821648 OpTree.leaf) 17592639029264 OpTree.leaf)) 29686998499504 (OpTree.node (OpTree.node (OpTree.node OpTree.leaf 29687082385584 OpTree.leaf) 193514231038128 OpTree.leaf) 193517016055984 (OpTree.node (OpTree.node OpTree.leaf 194613574893584 OpTree.leaf) 194616510906384 OpTree.leaf)))
def ops165 : List Nat := [12095080890384, 194616510906384, 1099780063414, 193517016055990, 29686998499510, 193514231038128, 1102481195184, 29687082385584, 12097580695574, 17592639029270, 194613574893590]
def tree165 : PdbModel.OpTree := (OpTree.node (OpTree.node (OpTree.node (OpTree.node OpTree.leaf 1099780063414 OpTree.leaf) 1102481195184 (OpTree.node OpTree.leaf 12095080890384 OpTree.leaf)) 12097580695574 (OpTree.node (OpTree.node OpTree.leaf 17592202821648 OpTree.leaf) 17592639029270 OpTree.leaf)) 29686998499510 (OpTree.node (OpTree.node (OpTree.node OpTree.leaf 29687082385584 OpTree.leaf) 193514231038128 OpTree.leaf) 193517016055990 (OpTree.node (OpTree.node OpTree.leaf 194613574893590 OpTree.leaf) 194616510906384 OpTree.leaf)))
def ops166 : List Nat := [12095080890384, 194616510906384, 1099780063408, 193517016055984, 29686998499504, 193514231038128, 1102481195184, 29687082385584, 12097580695568, 17592639029264, 194613574893584, 17626562822164, 12129440890900, 194650870906900, 1134140063924, 193551376056500, 29721358500020, 193548591038644, 1136841195700, 29721442386100, 12131940696084, 17626999029780, 194647934894100, 17609383215128, 12112261283864, 194633691299864, 1116960456888, 193534196449464, 29704178892984, 193531411431608, 1119661588664, 29704262779064, 12114761089048, 17609819422744, 194630755287064]
def tree166 : PdbModel.OpTree := (OpTree.node (OpTree.node (OpTree.node (OpTree.node (OpTree.node (OpTree.node OpTree.leaf 1099780063408 OpTree.leaf) 1102481195184 OpTree.leaf) 1116960456888 (OpTree.node OpTree.leaf 1119661588664 OpTree.leaf)) 1134140063924 (OpTree.node (OpTree.node (OpTree.node OpTree.leaf 1136841195700 OpTree.leaf) 12095080890384 OpTree.leaf) 12097580695568 (OpTree.node OpTree.leaf 12112261283864 OpTree.leaf))) 12114761089048 (OpTree.node (OpTree.node (OpTree.node (OpTree.node OpTree.leaf 12129440890900 OpTree.leaf) 12131940696084 OpTree.leaf) 17592202821648 (OpTree.node OpTree.leaf 17592639029264 OpTree.leaf)) 17609383215128 (OpTree.node (OpTree.node OpTree.leaf 17609819422744 OpTree.leaf) 17626562822164 (OpTree.node OpTree.leaf 17626999029780 OpTree.leaf)))) 29686998499504 (OpTree.node (OpTree.node (OpTree.node (OpTree.node (OpTree.node OpTree.leaf 29687082385584 OpTree.leaf) 29704178892984 OpTree.leaf) 29704262779064 (OpTree.node OpTree.leaf 29721358500020 OpTree.leaf)) 29721442386100 (OpTree.node (OpTree.node OpTree.leaf 193514231038128 OpTree.leaf) 193517016055984 (OpTree.node OpTree.leaf 193531411431608 OpTree.leaf))) 193534196449464 (OpTree.node (OpTree.node (OpTree.node (OpTree.node OpTree.leaf 193548591038644 OpTree.leaf) 193551376056500 OpTree.leaf) 194613574893584 (OpTree.node OpTree.leaf 194616510906384 OpTree.leaf)) 194630755287064 (OpTree.node (OpTree.node OpTree.leaf 194633691299864 OpTree.leaf) 194647934894100 (OpTree.node OpTree.leaf 194650870906900 OpTree.leaf)))))
def ops167 : List Nat := [12095080890384, 194616510906384, 1099780063414, 193517016055990, 29686998499510, 193514231038128, 1102481195184, 29687082385584, 12097580695574, 17592639029270, 194613574893590, 17626562822164, 12129440890900, 194650870906900, 1134140063930, 193551376056506, 29721358500026, 193548591038644, 1136841195700, 29721442386100, 12131940696090, 17626999029786, 194647934894106, 17609383215128, 12112261283864, 194633691299864, 1116960456882, 193534196449458, 29704178892978, 193531411431608, 1119661588664, 29704262779064, 12114761089042, 17609819422738, 194630755287058]
def tree167 : PdbModel.OpTree := (OpTree.node (OpTree.node (OpTree.node (OpTree.node (OpTree.node (OpTree.node OpTree.leaf 1099780063414 OpTree.leaf) 1102481195184 OpTree.leaf) 1116960456882 (OpTree.node OpTree.leaf 1119661588664 OpTree.leaf)) 1134140063930 (OpTree.node (OpTree.node (OpTree.node OpTree.leaf 1136841195700 OpTree.leaf) 12095080890384 OpTree.leaf) 12097580695574 (OpTree.node OpTree.leaf 12112261283864 OpTree.leaf))) 12114761089042 (OpTree.node (OpTree.node (OpTree.node (OpTree.node OpTree.leaf 12129440890900 OpTree.leaf) 12131940696090 OpTree.leaf) 17592202821648 (OpTree.node OpTree.leaf 17592639029270 OpTree.leaf)) 17609383215128 (OpTree.node (OpTree.node OpTree.leaf 17609819422738 OpTree.leaf) 17626562822164 (OpTree.node OpTree.leaf 17626999029786 OpTree.leaf)))) 29686998499510 (OpTree.node (OpTree.node (OpTree.node (OpTree.node (OpTree.node OpTree.leaf 29687082385584 OpTree.leaf) 29704178892978 OpTree.leaf) 29704262779064 (OpTree.node OpTree.leaf 29721358500026 OpTree.leaf)) 29721442386100 (OpTree.node (OpTree.node OpTree.leaf 193514231038128 OpTree.leaf) 193517016055990 (OpTree.node OpTree.leaf 193531411431608 OpTree.leaf))) 193534196449458 (OpTree.node (OpTree.node (OpTree.node (OpTree.node OpTree.leaf 193548591038644 OpTree.leaf) 193551376056506 OpTree.leaf) 194613574893590 (OpTree.node OpTree.leaf 194616510906384 OpTree.leaf)) 194630755287058 (OpTree.node (OpTree.node OpTree.leaf 194633691299864 OpTree.leaf) 194647934894106 (OpTree.node OpTree.leaf 194650870906900 OpTree.leaf)))))
def ops168 : List Nat := [29687082385424, 12095080890384, 193514231037968, 194616510906384, 1102481195024]
def tree168 : PdbModel.OpTree := (OpTree.node (OpTree.node (OpTree.node OpTree.leaf 1102481195024 OpTree.leaf) 12095080890384 (OpTree.node OpTree.leaf 17592202821648 OpTree.leaf)) 29687082385424 (OpTree.node (OpTree.node OpTree.leaf 193514231037968 OpTree.leaf) 194616510906384 OpTree.leaf))
def ops169 : List Nat := [29687082385426, 12095080890388, 193514231037974, 194616510906392, 1102481195034]
def tree169 : PdbModel.OpTree := (OpTree.node (OpTree.node (OpTree.node OpTree.leaf 1102481195034 OpTree.leaf) 12095080890388 (OpTree.node OpTree.leaf 17592202821648 OpTree.leaf)) 29687082385426 (OpTree.node (OpTree.node OpTree.leaf 193514231037974 OpTree.leaf) 194616510906392 OpTree.leaf))
def ops170 : List Nat := [29687082385434, 12095080890392, 193514231037974, 194616510906388, 1102481195026]
def tree170 : PdbModel.OpTree := (OpTree.node (OpTree.node (OpTree.node OpTree.leaf 1102481195026 OpTree.leaf) 12095080890392 (OpTree.node OpTree.leaf 17592202821648 OpTree.leaf)) 29687082385434 (OpTree.node (OpTree.node OpTree.leaf 193514231037974 OpTree.leaf) 194616510906388 OpTree.leaf))
def ops171 : List Nat := [29687082385428, 12095080890392, 193514231037968, 194616510906388, 1102481195032]
def tree171 : PdbModel.OpTree := (OpTree.node (OpTree.node (OpTree.node OpTree.leaf 1102481195032 OpTree.leaf) 12095080890392 (OpTree.node OpTree.leaf 17592202821648 OpTree.leaf)) 29687082385428 (OpTree.node (OpTree.node OpTree.leaf 193514231037968 OpTree.leaf) 194616510906388 OpTree.leaf))
def ops172 : List Nat := [29687082385432, 12095080890388, 193514231037968, 194616510906392, 1102481195028]
def tree172 : PdbModel.OpTree := (OpTree.node (OpTree.node (OpTree.node OpTree.leaf 1102481195028 OpTree.leaf) 12095080890388 (OpTree.node OpTree.leaf 17592202821648 OpTree.leaf)) 29687082385432 (OpTree.node (OpTree.node OpTree.leaf 193514231037968 OpTree.leaf) 194616510906392 OpTree.leaf))
def ops173 : List Nat := [29687082385430, 12095080890384, 193514231037974, 194616510906384, 1102481195030]
def tree173 : PdbModel.OpTree := (OpTree.node (OpTree.node (OpTree.node OpTree.leaf 1102481195030 OpTree.leaf) 12095080890384 (OpTree.node OpTree.leaf 17592202821648 OpTree.leaf)) 29687082385430 (OpTree.node (OpTree.node OpTree.leaf 193514231037974 OpTree.leaf) 194616510906384 OpTree.leaf))
def ops174 : List Nat := [194616510906544, 12095080890384, 17592202821808, 194616510906384, 12095080890544]
def tree174 : PdbModel.OpTree := (OpTree.node (OpTree.node (OpTree.node OpTree.leaf 12095080890384 OpTree.leaf) 12095080890544 (OpTree.node OpTree.leaf 17592202821648 OpTree.leaf)) 17592202821808 (OpTree.node (OpTree.node OpTree.leaf 194616510906384 OpTree.leaf) 194616510906544 OpTree.leaf))
def ops175 : List Nat := [29687082385424, 12095080890384, 193514231037968, 194616510906384, 1102481195024, 193514231038128, 194616510906544, 1102481195184, 17592202821808, 29687082385584, 12095080890544]
def tree175 : PdbModel.OpTree := (OpTree.node (OpTree.node (OpTree.node (OpTree.node OpTree.leaf 1102481195024 OpTree.leaf) 1102481195184 (OpTree.node OpTree.leaf 12095080890384 OpTree.leaf)) 12095080890544 (OpTree.node (OpTree.node OpTree.leaf 17592202821648 OpTree.leaf) 17592202821808 OpTree.leaf)) 29687082385424 (OpTree.node (OpTree.node (OpTree.node OpTree.leaf 29687082385584 OpTree.leaf) 193514231037968 OpTree.leaf) 193514231038128 (OpTree.node (OpTree.node OpTree.leaf 194616510906384 OpTree.leaf) 194616510906544 OpTree.leaf)))
def ops176 : List Nat := [29687082385430, 12095080890384, 193514231037974, 194616510906384, 1102481195030, 193514231038128, 194616510906550, 1102481195184, 17592202821814, 29687082385584, 12095080890550]
def tree176 : PdbModel.OpTree := (OpTree.node (OpTree.node (OpTree.node (OpTree.node OpTree.leaf 1102481195030 OpTree.leaf) 1102481195184 (OpTree.node OpTree.leaf 12095080890384 OpTree.leaf)) 12095080890550 (OpTree.node (OpTree.node OpTree.leaf 17592202821648 OpTree.leaf) 17592202821814 OpTree.leaf)) 29687082385430 (OpTree.node (OpTree.node (OpTree.node OpTree.leaf 29687082385584 OpTree.leaf) 193514231037974 OpTree.leaf) 193514231038128 (OpTree.node (OpTree.node OpTree.leaf 194616510906384 OpTree.leaf) 194616510906550 OpTree.leaf)))
def ops177 : List Nat := [29687082385424, 12095080890384, 193514231037968, 194616510906384, 1102481195024, 12097580695728, 29686998499504, 17592639029424, 1099780063408, 194613574893744, 193517016055984]
def tree177 : PdbModel.OpTree := (OpTree.node (OpTree.node (OpTree.node (OpTree.node OpTree.leaf 1099780063408 OpTree.leaf) 1102481195024 (OpTree.node OpTree.leaf 12095080890384 OpTree.leaf)) 12097580695728 (OpTree.node (OpTree.node OpTree.leaf 17592202821648 OpTree.leaf) 17592639029424 OpTree.leaf)) 29686998499504 (OpTree.node (OpTree.node (OpTree.node OpTree.leaf 29687082385424 OpTree.leaf) 193514231037968 OpTree.leaf) 193517016055984 (OpTree.node (OpTree.node OpTree.leaf 194613574893744 OpTree.leaf) 194616510906384 OpTree.leaf)))
def ops178 : List Nat := [29687082385426, 12095080890388, 193514231037974, 194616510906392, 1102481195034, 12097580695738, 29686998499504, 17592639029426, 1099780063412, 194613574893750, 193517016055992]
def tree178 : PdbModel.OpTree := (OpTree.node (OpTree.node (OpTree.node (OpTree.node OpTree.leaf 1099780063412 OpTree.leaf) 1102481195034 (OpTree.node OpTree.leaf 12095080890388 OpTree.leaf)) 12097580695738 (OpTree.node (OpTree.node OpTree.leaf 17592202821648 OpTree.leaf) 17592639029426 OpTree.leaf)) 29686998499504 (OpTree.node (OpTree.node (OpTree.node OpTree.leaf 29687082385426 OpTree.leaf) 193514231037974 OpTree.leaf) 193517016055992 (OpTree.node (OpTree.node OpTree.leaf 194613574893750 OpTree.leaf) 194616510906392 OpTree.leaf)))
def ops179 : List Nat := [29687082385434, 12095080890392, 193514231037974, 194616510906388, 1102481195026, 12097580695730, 29686998499504, 17592639029434, 1099780063416, 194613574893750, 193517016055988]
def tree179 : PdbModel.OpTree := (OpTree.node (OpTree.node (OpTree.node (OpTree.node OpTree.leaf 1099780063416 OpTree.leaf) 1102481195026 (OpTree.node OpTree.leaf 12095080890392 OpTree.leaf)) 12097580695730 (OpTree.node (OpTree.node OpTree.leaf 17592202821648 OpTree.leaf) 17592639029434 OpTree.leaf)) 29686998499504 (OpTree.node (OpTree.node (OpTree.node OpTree.leaf 29687082385434 OpTree.leaf) 193514231037974 OpTree.leaf) 193517016055988 (OpTree.node (OpTree.node OpTree.leaf 194613574893750 OpTree.leaf) 194616510906388 OpTree.leaf)))
def ops180 : List Nat := [29687082385428, 12095080890392, 193514231037968, 194616510906388, 1102481195032, 12097580695736, 29686998499504, 17592639029428, 1099780063416, 194613574893744, 193517016055988]
def tree180 : PdbModel.OpTree := (OpTree.node (OpTree.node (OpTree.node (OpTree.node OpTree.leaf 1099780063416 OpTree.leaf) 1102481195032 (OpTree.node OpTree.leaf 12095080890392 OpTree.leaf)) 12097580695736 (OpTree.node (OpTree.node OpTree.leaf 17592202821648 OpTree.leaf) 17592639029428 OpTree.leaf)) 29686998499504 (OpTree.node (OpTree.node (OpTree.node OpTree.leaf 29687082385428 OpTree.leaf) 193514231037968 OpTree.leaf) 193517016055988 (OpTree.node (OpTree.node OpTree.leaf 194613574893744 OpTree.leaf) 194616510906388 OpTree.leaf)))
def ops181 : List Nat := [29687082385432, 12095080890388, 193514231037968, 194616510906392, 1102481195028, 12097580695732, 29686998499504, 17592639029432, 1099780063412, 194613574893744, 193517016055992]
def tree181 : PdbModel.OpTree := (OpTree.node (OpTree.node (OpTree.node (OpTree.node OpTree.leaf 1099780063412 OpTree.leaf) 1102481195028 (OpTree.node OpTree.leaf 12095080890388 OpTree.leaf)) 12097580695732 (OpTree.node (OpTree.node OpTree.leaf 17592202821648 OpTree.leaf) 17592639029432 OpTree.leaf)) 29686998499504 (OpTree.node (OpTree.node (OpTree.node OpTree.leaf 29687082385432 OpTree.leaf) 193514231037968 OpTree.leaf) 193517016055992 (OpTree.node (OpTree.node OpTree.leaf 194613574893744 OpTree.leaf) 194616510906392 OpTree.leaf)))
def ops182 : List Nat := [29687082385430, 12095080890384, 193514231037974, 194616510906384, 1102481195030, 12097580695734, 29686998499504, 17592639029430, 1099780063408, 194613574893750, 193517016055984]
def tree182 : PdbModel.OpTree := (OpTree.node (OpTree.node (OpTree.node (OpTree.node OpTree.leaf 1099780063408 OpTree.leaf) 1102481195030 (OpTree.node OpTree.leaf 12095080890384 OpTree.leaf)) 12097580695734 (OpTree.node (OpTree.node OpTree.leaf 17592202821648 OpTree.leaf) 17592639029430 OpTree.leaf)) 29686998499504 (OpTree.node (OpTree.node (OpTree.node OpTree.leaf 29687082385430 OpTree.leaf) 193514231037974 OpTree.leaf) 193517016055984 (OpTree.node (OpTree.node OpTree.leaf 194613574893750 OpTree.leaf) 194616510906384 OpTree.leaf)))
def ops183 : List Nat := [29687082385424, 12095080890384, 193514231037968, 194616510906384, 1102481195024, 1099780063248, 194613574893584, 193517016055824, 12097580695568, 29686998499344, 17592639029264]
def tree183 : PdbModel.OpTree := (OpTree.node (OpTree.node (OpTree.node (OpTree.node OpTree.leaf 1099780063248 OpTree.leaf) 1102481195024 (OpTree.node OpTree.leaf 12095080890384 OpTree.leaf)) 12097580695568 (OpTree.node (OpTree.node OpTree.leaf 17592202821648 OpTree.leaf) 17592639029264 OpTree.leaf)) 29686998499344 (OpTree.node (OpTree.node (OpTree.node OpTree.leaf 29687082385424 OpTree.leaf) 193514231037968 OpTree.leaf) 193517016055824 (OpTree.node (OpTree.node OpTree.leaf 194613574893584 OpTree.leaf) 194616510906384 OpTree.leaf)))
def ops184 : List Nat := [29687082385424, 12095080890384, 193514231037968, 194616510906384, 1102481195024, 1099780063254, 194613574893590, 193517016055830, 12097580695574, 29686998499350, 17592639029270]
def tree184 : PdbModel.OpTree := (OpTree.node (OpTree.node (OpTree.node (OpTree.node OpTree.leaf 1099780063254 OpTree.leaf) 1102481195024 (OpTree.node OpTree.leaf 12095080890384 OpTree.leaf)) 12097580695574 (OpTree.node (OpTree.node OpTree.leaf 17592202821648 OpTree.leaf) 17592639029270 OpTree.leaf)) 29686998499350 (OpTree.node (OpTree.node (OpTree.node OpTree.leaf 29687082385424 OpTree.leaf) 193514231037968 OpTree.leaf) 193517016055830 (OpTree.node (OpTree.node OpTree.leaf 194613574893590 OpTree.leaf) 194616510906384 OpTree.leaf)))
def ops185 : List Nat := [29687082385430, 12095080890384, 193514231037974, 194616510906384, 1102481195030, 1099780063248, 194613574893590, 193517016055824, 12097580695574, 29686998499344, 17592639029270]
def tree185 : PdbModel.OpTree := (OpTree.node (OpTree.node (OpTree.node (OpTree.node OpTree.leaf 1099780063248 OpTree.leaf) 1102481195030 (OpTree.node OpTree.leaf 12095080890384 OpTree.leaf)) 12097580695574 (OpTree.node (OpTree.node OpTree.leaf 17592202821648 OpTree.leaf) 17592639029270 OpTree.leaf)) 29686998499344 (OpTree.node (OpTree.node (OpTree.node OpTree.leaf 29687082385430 OpTree.leaf) 193514231037974 OpTree.leaf) 193517016055824 (OpTree.node (OpTree.node OpTree.leaf 194613574893590 OpTree.leaf) 194616510906384 OpTree.leaf)))
def ops186 : List Nat := [29687082385430, 12095080890384, 193514231037974, 194616510906384, 1102481195030, 1099780063254, 194613574893584, 193517016055830, 12097580695568, 29686998499350, 17592639029264]
def tree186 : PdbModel.OpTree := (OpTree.node (OpTree.node (OpTree.node (OpTree.node OpTree.leaf 1099780063254 OpTree.leaf) 1102481195030 (OpTree.node OpTree.leaf 12095080890384 OpTree.leaf)) 12097580695568 (OpTree.node (OpTree.node OpTree.leaf 17592202821648 OpTree.leaf) 17592639029264 OpTree.leaf)) 29686998499350 (OpTree.node (OpTree.node (OpTree.node OpTree.leaf 29687082385430 OpTree.leaf) 193514231037974 OpTree.leaf) 193517016055830 (OpTree.node (OpTree.node OpTree.leaf 194613574893584 OpTree.leaf) 194616510906384 OpTree.leaf)))
def ops187 : List Nat := [194616510906544, 12095080890384, 17592202821808, 194616510906384, 12095080890544, 12097580695728, 194613574893584, 17592639029424, 12097580695568, 194613574893744, 17592639029264]
def tree187 : PdbModel.OpTree := (OpTree.node (OpTree.node (OpTree.node (OpTree.node OpTree.leaf 12095080890384 OpTree.leaf) 12095080890544 (OpTree.node OpTree.leaf 12097580695568 OpTree.leaf)) 12097580695728 (OpTree.node (OpTree.node OpTree.leaf 17592202821648 OpTree.leaf) 17592202821808 OpTree.leaf)) 17592639029264 (OpTree.node (OpTree.node (OpTree.node OpTree.leaf 17592639029424 OpTree.leaf) 194613574893584 OpTree.leaf) 194613574893744 (OpTree.node (OpTree.node OpTree.leaf 194616510906384 OpTree.leaf) 194616510906544 OpTree.leaf)))
def ops188 : List Nat := [194616510906550, 12095080890384, 17592202821814, 194616510906384, 12095080890550, 12097580695728, 194613574893590, 17592639029424, 12097580695574, 194613574893744, 17592639029270]
def tree188 : PdbModel.OpTree := (OpTree.node (OpTree.node (OpTree.node (OpTree.node OpTree.leaf 12095080890384 OpTree.leaf) 12095080890550 (OpTree.node OpTree.leaf 12097580695574 OpTree.leaf)) 12097580695728 (OpTree.node (OpTree.node OpTree.leaf 17592202821648 OpTree.leaf) 17592202821814 OpTree.leaf)) 17592639029270 (OpTree.node (OpTree.node (OpTree.node OpTree.leaf 17592639029424 OpTree.leaf) 194613574893590 OpTree.leaf) 194613574893744 (OpTree.node (OpTree.node OpTree.leaf 194616510906384 OpTree.leaf) 194616510906550 OpTree.leaf)))
def ops189 : List Nat := [194616510906544, 12095080890384, 17592202821808, 194616510906384, 12095080890544, 1099780063248, 29686998499504, 193517016055824, 1099780063408, 29686998499344, 193517016055984]
def tree189 : PdbModel.OpTree := (OpTree.node (OpTree.node (OpTree.node (OpTree.node OpTree.leaf 1099780063248 OpTree.leaf) 1099780063408 (OpTree.node OpTree.leaf 12095080890384 OpTree.leaf)) 12095080890544 (OpTree.node (OpTree.node OpTree.leaf 17592202821648 OpTree.leaf) 17592202821808 OpTree.leaf)) 29686998499344 (OpTree.node (OpTree.node (OpTree.node OpTree.leaf 29686998499504 OpTree.leaf) 193517016055824 OpTree.leaf) 193517016055984 (OpTree.node (OpTree.node OpTree.leaf 194616510906384 OpTree.leaf) 194616510906544 OpTree.leaf)))
def ops190 : List Nat := [194616510906550, 12095080890384, 17592202821814, 194616510906384, 12095080890550, 1099780063254, 29686998499504, 193517016055830, 1099780063408, 29686998499350, 193517016055984]
def tree190 : PdbModel.OpTree := (OpTree.node (OpTree.node (OpTree.node (OpTree.node OpTree.leaf 1099780063254 OpTree.leaf) 1099780063408 (OpTree.node OpTree.leaf 12095080890384 OpTree.leaf)) 12095080890550 (OpTree.node (OpTree.node OpTree.leaf 17592202821648 OpTree.leaf) 17592202821814 OpTree.leaf)) 29686998499350 (OpTree.node (OpTree.node (OpTree.node OpTree.leaf 29686998499504 OpTree.leaf) 193517016055830 OpTree.leaf) 193517016055984 (OpTree.node (OpTree.node OpTree.leaf 194616510906384 OpTree.leaf) 194616510906550 OpTree.leaf)))
def ops191 : List Nat := [29687082385424, 12095080890384, 193514231037968, 194616510906384, 1102481195024, 12097580695728, 29686998499504, 17592639029424, 1099780063408, 194613574893744, 193517016055984, 193514231038128, 194616510906544, 1102481195184, 17592202821808, 29687082385584, 12095080890544, 1099780063248, 194613574893584, 193517016055824, 12097580695568, 29686998499344, 17592639029264]
def tree191 : PdbModel.OpTree := (OpTree.node (OpTree.node (OpTree.node (OpTree.node (OpTree.node OpTree.leaf 1099780063248 OpTree.leaf) 1099780063408 (OpTree.node OpTree.leaf 1102481195024 OpTree.leaf)) 1102481195184 (OpTree.node (OpTree.node OpTree.leaf 12095080890384 OpTree.leaf) 12095080890544 OpTree.leaf)) 12097580695568 (OpTree.node (OpTree.node (OpTree.node OpTree.leaf 12097580695728 OpTree.leaf) 17592202821648 OpTree.leaf) 17592202821808 (OpTree.node (OpTree.node OpTree.leaf 17592639029264 OpTree.leaf) 17592639029424 OpTree.leaf))) 29686998499344 (OpTree.node (OpTree.node (OpTree.node (OpTree.node OpTree.leaf 29686998499504 OpTree.leaf) 29687082385424 OpTree.leaf) 29687082385584 (OpTree.node (OpTree.node OpTree.leaf 193514231037968 OpTree.leaf) 193514231038128 OpTree.leaf)) 193517016055824 (OpTree.node (OpTree.node (OpTree.node OpTree.leaf 193517016055984 OpTree.leaf) 194613574893584 OpTree.leaf) 194613574893744 (OpTree.node (OpTree.node OpTree.leaf 194616510906384 OpTree.leaf) 194616510906544 OpTree.leaf))))
def ops192 : List Nat := [29687082385424, 12095080890384, 193514231037968, 194616510906384, 1102481195024, 12097580695734, 29686998499510, 17592639029430, 1099780063414, 194613574893750, 193517016055990, 193514231038128, 194616510906544, 1102481195184, 17592202821808, 29687082385584, 12095080890544, 1099780063254, 194613574893590, 193517016055830, 12097580695574, 29686998499350, 17592639029270]
def tree192 : PdbModel.OpTree := (OpTree.node (OpTree.node (OpTree.node (OpTree.node (OpTree.node OpTree.leaf 1099780063254 OpTree.leaf) 1099780063414 (OpTree.node OpTree.leaf 1102481195024 OpTree.leaf)) 1102481195184 (OpTree.node (OpTree.node OpTree.leaf 12095080890384 OpTree.leaf) 12095080890544 OpTree.leaf)) 12097580695574 (OpTree.node (OpTree.node (OpTree.node OpTree.leaf 12097580695734 OpTree.leaf) 17592202821648 OpTree.leaf) 17592202821808 (OpTree.node (OpTree.node OpTree.leaf 17592639029270 OpTree.leaf) 17592639029430 OpTree.leaf))) 29686998499350 (OpTree.node (OpTree.node (OpTree.node (OpTree.node OpTree.leaf 29686998499510 OpTree.leaf) 29687082385424 OpTree.leaf) 29687082385584 (OpTree.node (OpTree.node OpTree.leaf 193514231037968 OpTree.leaf) 193514231038128 OpTree.leaf)) 193517016055830 (OpTree.node (OpTree.node (OpTree.node OpTree.leaf 193517016055990 OpTree.leaf) 194613574893590 OpTree.leaf) 194613574893750 (OpTree.node (OpTree.node OpTree.leaf 194616510906384 OpTree.leaf) 194616510906544 OpTree.leaf))))
def ops193 : List Nat := [29687082385430, 12095080890384, 193514231037974, 194616510906384, 1102481195030, 12097580695728, 29686998499510, 17592639029424, 1099780063414, 194613574893744, 193517016055990, 193514231038128, 194616510906550, 1102481195184, 17592202821814, 29687082385584, 12095080890550, 1099780063248, 194613574893590, 193517016055824, 12097580695574, 29686998499344, 17592639029270]
def tree193 : PdbModel.OpTree := (OpTree.node (OpTree.node (OpTree.node (OpTree.node (OpTree.node OpTree.leaf 1099780063248 OpTree.leaf) 1099780063414 (OpTree.node OpTree.leaf 1102481195030 OpTree.leaf)) 1102481195184 (OpTree.node (OpTree.node OpTree.leaf 12095080890384 OpTree.leaf) 12095080890550 OpTree.leaf)) 12097580695574 (OpTree.node (OpTree.node (OpTree.node OpTree.leaf 12097580695728 OpTree.leaf) 17592202821648 OpTree.leaf) 17592202821814 (OpTree.node (OpTree.node OpTree.leaf 17592639029270 OpTree.leaf) 17592639029424 OpTree.leaf))) 29686998499344 (OpTree.node (OpTree.node (OpTree.node (OpTree.node OpTree.leaf 29686998499510 OpTree.leaf) 29687082385430 OpTree.leaf) 29687082385584 (OpTree.node (OpTree.node OpTree.leaf 193514231037974 OpTree.leaf) 193514231038128 OpTree.leaf)) 193517016055824 (OpTree.node (OpTree.node (OpTree.node OpTree.leaf 193517016055990 OpTree.leaf) 194613574893590 OpTree.leaf) 194613574893744 (OpTree.node (OpTree.node OpTree.leaf 194616510906384 OpTree.leaf) 194616510906550 OpTree.leaf))))
def ops194 : List Nat := [29687082385430, 12095080890384, 193514231037974, 194616510906384, 1102481195030, 12097580695734, 29686998499504, 17592639029430, 1099780063408, 194613574893750, 193517016055984, 193514231038128, 194616510906550, 1102481195184, 17592202821814, 29687082385584, 12095080890550, 1099780063254, 194613574893584, 193517016055830, 12097580695568, 29686998499350, 17592639029264]
def tree194 : PdbModel.OpTree := (OpTree.node (OpTree.node (OpTree.node (OpTree.node (OpTree.node OpTree.leaf 1099780063254 OpTree.leaf) 1099780063408 (OpTree.node OpTree.leaf 1102481195030 OpTree.leaf)) 1102481195184 (OpTree.node (OpTree.node OpTree.leaf 12095080890384 OpTree.leaf) 12095080890550 OpTree.leaf)) 12097580695568 (OpTree.node (OpTree.node (OpTree.node OpTree.leaf 12097580695734 OpTree.leaf) 17592202821648 OpTree.leaf) 17592202821814 (OpTree.node (OpTree.node OpTree.leaf 17592639029264 OpTree.leaf) 17592639029430 OpTree.leaf))) 29686998499350 (OpTree.node (OpTree.node (OpTree.node (OpTree.node OpTree.leaf 29686998499504 OpTree.leaf) 29687082385430 OpTree.leaf) 29687082385584 (OpTree.node (OpTree.node OpTree.leaf 193514231037974 OpTree.leaf) 193514231038128 OpTree.leaf)) 193517016055830 (OpTree.node (OpTree.node (OpTree.node OpTree.leaf 193517016055984 OpTree.leaf) 194613574893584 OpTree.leaf) 194613574893750 (OpTree.node (OpTree.node OpTree.leaf 194616510906384 OpTree.leaf) 194616510906550 OpTree.leaf))))
def ops195 : List Nat := [193514231037968, 17592370593968, 193514063265968, 68987912448, 758867034368, 71672269568, 756182682368, 1099512680448, 1099523207168, 12094628999168, 12094639443968]
def tree195 : PdbModel.OpTree := (OpTree.node (OpTree.node (OpTree.node (OpTree.node OpTree.leaf 68987912448 OpTree.leaf) 71672269568 (OpTree.node OpTree.leaf 756182682368 OpTree.leaf)) 758867034368 (OpTree.node (OpTree.node OpTree.leaf 1099512680448 OpTree.leaf) 1099523207168 OpTree.leaf)) 12094628999168 (OpTree.node (OpTree.node (OpTree.node OpTree.leaf 12094639443968 OpTree.leaf) 17592202821648 OpTree.leaf) 17592370593968 (OpTree.node (OpTree.node OpTree.leaf 193514063265968 OpTree.leaf) 193514231037968 OpTree.leaf)))
def ops196 : List Nat := [193514231037968, 17592370593968, 193514063265968, 68987912448, 758867034368, 71672269568, 756182682368, 1099512680448, 1099523207168, 12094628999168, 12094639443968, 17592203214870, 193514231431190, 17592370987190, 193514063659190, 68988305670, 758867427590, 71672662790, 756183075590, 1099513073670, 1099523600390, 12094629392390, 12094639837190, 17617972625430, 193540000841750, 17618140397750, 193539833069750, 94757716230, 784636838150, 97442073350, 781952486150, 1125282484230, 1125293010950, 12120398802950, 12120409247750, 17617973018640, 193540001234960, 17618140790960, 193539833462960, 94758109440, 784637231360, 97442466560, 781952879360, 1125282877440, 1125293404160, 12120399196160, 12120409640960]
def tree196 : PdbModel.OpTree := (OpTree.node (OpTree.node (OpTree.node (OpTree.node (OpTree.node (OpTree.node OpTree.leaf 68987912448 OpTree.leaf) 68988305670 (OpTree.node OpTree.leaf 71672269568 OpTree.leaf)) 71672662790 (OpTree.node (OpTree.node OpTree.leaf 94757716230 OpTree.leaf) 94758109440 OpTree.leaf)) 97442073350 (OpTree.node (OpTree.node (OpTree.node OpTree.leaf 97442466560 OpTree.leaf) 756182682368 OpTree.leaf) 756183075590 (OpTree.node (OpTree.node OpTree.leaf 758867034368 OpTree.leaf) 758867427590 OpTree.leaf))) 781952486150 (OpTree.node (OpTree.node (OpTree.node (OpTree.node OpTree.leaf 781952879360 OpTree.leaf) 784636838150 OpTree.leaf) 784637231360 (OpTree.node (OpTree.node OpTree.leaf 1099512680448 OpTree.leaf) 1099513073670 OpTree.leaf)) 1099523207168 (OpTree.node (OpTree.node (OpTree.node OpTree.leaf 1099523600390 OpTree.leaf) 1125282484230 OpTree.leaf) 1125282877440 (OpTree.node (OpTree.node OpTree.leaf 1125293010950 OpTree.leaf) 1125293404160 OpTree.leaf)))) 12094628999168 (OpTree.node (OpTree.node (OpTree.node (OpTree.node (OpTree.node OpTree.leaf 12094629392390 OpTree.leaf) 12094639443968 OpTree.leaf) 12094639837190 (OpTree.node (OpTree.node OpTree.leaf 12120398802950 OpTree.leaf) 12120399196160 OpTree.leaf)) 12120409247750 (OpTree.node (OpTree.node (OpTree.node OpTree.leaf 12120409640960 OpTree.leaf) 17592202821648 OpTree.leaf) 17592203214870 (OpTree.node (OpTree.node OpTree.leaf 17592370593968 OpTree.leaf) 17592370987190 OpTree.leaf))) 17617972625430 (OpTree.node (OpTree.node (OpTree.node (OpTree.node OpTree.leaf 17617973018640 OpTree.leaf) 17618140397750 OpTree.leaf) 17618140790960 (OpTree.node (OpTree.node OpTree.leaf 193514063265968 OpTree.leaf) 193514063659190 OpTree.leaf)) 193514231037968 (OpTree.node (OpTree.node (OpTree.node OpTree.leaf 193514231431190 OpTree.leaf) 193539833069750 OpTree.leaf) 193539833462960 (OpTree.node (OpTree.node OpTree.leaf 193540000841750 OpTree.leaf) 193540001234960 OpTree.leaf)))))
def ops197 : List Nat := [193514231037968, 17592370593968, 193514063265968, 68987912448, 758867034368, 71672269568, 756182682368, 1099512680448, 1099523207168, 12094628999168, 12094639443968, 17617973018646, 193540001234966, 17618140790966, 193539833462966, 94758109446, 784637231366, 97442466566, 781952879366, 1125282877446, 1125293404166, 12120399196166, 12120409640966]
def tree197 : PdbModel.OpTree := (OpTree.node (OpTree.node (OpTree.node (OpTree.node (OpTree.node OpTree.leaf 68987912448 OpTree.leaf) 71672269568 (OpTree.node OpTree.leaf 94758109446 OpTree.leaf)) 97442466566 (OpTree.node (OpTree.node OpTree.leaf 756182682368 OpTree.leaf) 758867034368 OpTree.leaf)) 781952879366 (OpTree.node (OpTree.node (OpTree.node OpTree.leaf 784637231366 OpTree.leaf) 1099512680448 OpTree.leaf) 1099523207168 (OpTree.node (OpTree.node OpTree.leaf 1125282877446 OpTree.leaf) 1125293404166 OpTree.leaf))) 12094628999168 (OpTree.node (OpTree.node (OpTree.node (OpTree.node OpTree.leaf 12094639443968 OpTree.leaf) 12120399196166 OpTree.leaf) 12120409640966 (OpTree.node (OpTree.node OpTree.leaf 17592202821648 OpTree.leaf) 17592370593968 OpTree.leaf)) 17617973018646 (OpTree.node (OpTree.node (OpTree.node OpTree.leaf 17618140790966 OpTree.leaf) 193514063265968 OpTree.leaf) 193514231037968 (OpTree.node (OpTree.node OpTree.leaf 193539833462966 OpTree.leaf) 193540001234966 OpTree.leaf))))
def ops198 : List Nat := [193540000841750, 17618140790960, 193514063659190, 68987912448, 784636838150, 97442466560, 756183075590, 1099512680448, 1125293404160, 12094629392390, 12120409247750]
def tree198 : PdbModel.OpTree := (OpTree.node (OpTree.node (OpTree.node (OpTree.node OpTree.leaf 68987912448 OpTree.leaf) 97442466560 (OpTree.node OpTree.leaf 756183075590 OpTree.leaf)) 784636838150 (OpTree.node (OpTree.node OpTree.leaf 1099512680448 OpTree.leaf) 1125293404160 OpTree.leaf)) 12094629392390 (OpTree.node (OpTree.node (OpTree.node OpTree.leaf 12120409247750 OpTree.leaf) 17592202821648 OpTree.leaf) 17618140790960 (OpTree.node (OpTree.node OpTree.leaf 193514063659190 OpTree.leaf) 193540000841750 OpTree.leaf)))
def ops199 : List Nat := [193514231431184, 17592370593974, 193514063659190, 68987912448, 758867427584, 71672269574, 756183075590, 1099512680448, 1099523207174, 12094629392390, 12120409247750, 17617973018646, 193540000841750, 17618140790960, 193539833069744, 94758109446, 784636838150, 97442466560, 781952486144, 1125282877446, 1125293404160, 12120398802944, 12094639837184]
def tree199 : PdbModel.OpTree := (OpTree.node (OpTree.node (OpTree.node (OpTree.node (OpTree.node OpTree.leaf 68987912448 OpTree.leaf) 71672269574 (OpTree.node OpTree.leaf 94758109446 OpTree.leaf)) 97442466560 (OpTree.node (OpTree.node OpTree.leaf 756183075590 OpTree.leaf) 758867427584 OpTree.leaf)) 781952486144 (OpTree.node (OpTree.node (OpTree.node OpTree.leaf 784636838150 OpTree.leaf) 1099512680448 OpTree.leaf) 1099523207174 (OpTree.node (OpTree.node OpTree.leaf 1125282877446 OpTree.leaf) 1125293404160 OpTree.leaf))) 12094629392390 (OpTree.node (OpTree.node (OpTree.node (OpTree.node OpTree.leaf 12094639837184 OpTree.leaf) 12120398802944 OpTree.leaf) 12120409247750 (OpTree.node (OpTree.node OpTree.leaf 17592202821648 OpTree.leaf) 17592370593974 OpTree.leaf)) 17617973018646 (OpTree.node (OpTree.node (OpTree.node OpTree.leaf 17618140790960 OpTree.leaf) 193514063659190 OpTree.leaf) 193514231431184 (OpTree.node (OpTree.node OpTree.leaf 193539833069744 OpTree.leaf) 193540000841750 OpTree.leaf))))
def ops200 : List Nat := [193514231037968, 17592370593968, 193514063265968, 68987912448, 758867034368, 71672269568, 756182682368, 1099512680448, 1099523207168, 12094628999168, 12094639443968, 193514231038128, 17592202821808, 193514063265808, 17592370593808, 758867036928, 68987915008, 756182679808, 71672267008, 12094639484928, 12094628958208, 1099523166208, 1099512721408]
def tree200 : PdbModel.OpTree := (OpTree.node (OpTree.node (OpTree.node (OpTree.node (OpTree.node OpTree.leaf 68987912448 OpTree.leaf) 68987915008 (OpTree.node OpTree.leaf 71672267008 OpTree.leaf)) 71672269568 (OpTree.node (OpTree.node OpTree.leaf 756182679808 OpTree.leaf) 756182682368 OpTree.leaf)) 758867034368 (OpTree.node (OpTree.node (OpTree.node OpTree.leaf 758867036928 OpTree.leaf) 1099512680448 OpTree.leaf) 1099512721408 (OpTree.node (OpTree.node OpTree.leaf 1099523166208 OpTree.leaf) 1099523207168 OpTree.leaf))) 12094628958208 (OpTree.node (OpTree.node (OpTree.node (OpTree.node OpTree.leaf 12094628999168 OpTree.leaf) 12094639443968 OpTree.leaf) 12094639484928 (OpTree.node (OpTree.node OpTree.leaf 17592202821648 OpTree.leaf) 17592202821808 OpTree.leaf)) 17592370593808 (OpTree.node (OpTree.node (OpTree.node OpTree.leaf 17592370593968 OpTree.leaf) 193514063265808 OpTree.leaf) 193514063265968 (OpTree.node (OpTree.node OpTree.leaf 193514231037968 OpTree.leaf) 193514231038128 OpTree.leaf))))
def ops201 : List Nat := [193540001234960, 17592370987190, 193539833069750, 68987912448, 784637231360, 71672662790, 781952486150, 1099512680448, 1099523600390, 12120398802950, 12120409640960, 193514231038128, 17617973018800, 193514063659030, 17618140397590, 758867036928, 94758112000, 756183073030, 97442070790, 12094639484928, 12094629351430, 1125292969990, 1125282918400]
def tree201 : PdbModel.OpTree := (OpTree.node (OpTree.node (OpTree.node (OpTree.node (OpTree.node OpTree.leaf 68987912448 OpTree.leaf) 71672662790 (OpTree.node OpTree.leaf 94758112000 OpTree.leaf)) 97442070790 (OpTree.node (OpTree.node OpTree.leaf 756183073030 OpTree.leaf) 758867036928 OpTree.leaf)) 781952486150 (OpTree.node (OpTree.node (OpTree.node OpTree.leaf 784637231360 OpTree.leaf) 1099512680448 OpTree.leaf) 1099523600390 (OpTree.node (OpTree.node OpTree.leaf 1125282918400 OpTree.leaf) 1125292969990 OpTree.leaf))) 12094629351430 (OpTree.node (OpTree.node (OpTree.node (OpTree.node OpTree.leaf 12094639484928 OpTree.leaf) 12120398802950 OpTree.leaf) 12120409640960 (OpTree.node (OpTree.node OpTree.leaf 17592202821648 OpTree.leaf) 17592370987190 OpTree.leaf)) 17617973018800 (OpTree.node (OpTree.node (OpTree.node OpTree.leaf 17618140397590 OpTree.leaf) 193514063659030 OpTree.leaf) 193514231038128 (OpTree.node (OpTree.node OpTree.leaf 193539833069750 OpTree.leaf) 193540001234960 OpTree.leaf))))
def ops202 : List Nat := [193514231037968, 17592370593968, 193514063265968, 68987912448, 758867034368, 71672269568, 756182682368, 1099512680448, 1099523207168, 12094628999168, 12094639443968, 193514231038128, 17592202821808, 193514063265808, 17592370593808, 758867036928, 68987915008, 756182679808, 71672267008, 12094639484928, 12094628958208, 1099523166208, 1099512721408, 17592203214870, 193514231431190, 17592370987190, 193514063659190, 68988305670, 758867427590, 71672662790, 756183075590, 1099513073670, 1099523600390, 12094629392390, 12094639837190, 193514231431350, 17592203215030, 193514063659030, 17592370987030, 758867430150, 68988308230, 756183073030, 71672660230, 12094639878150, 12094629351430, 1099523559430, 1099513114630, 17617972625430, 193540000841750, 17618140397750, 193539833069750, 94757716230, 784636838150, 97442073350, 781952486150, 1125282484230, 1125293010950, 12120398802950, 12120409247750, 193540000841910, 17617972625590, 193539833069590, 17618140397590, 784636840710, 94757718790, 781952483590, 97442070790, 12120409288710, 12120398761990, 1125292969990, 1125282525190, 17617973018640, 193540001234960, 17618140790960, 193539833462960, 94758109440, 784637231360, 97442466560, 781952879360, 1125282877440, 1125293404160, 12120399196160, 12120409640960, 193540001235120, 17617973018800, 193539833462800, 17618140790800, 784637233920, 94758112000, 781952876800, 97442464000, 12120409681920, 12120399155200, 1125293363200, 1125282918400]
def tree202 : PdbModel.OpTree := (OpTree.node (OpTree.node (OpTree.node (OpTree.node (OpTree.node (OpTree.node (OpTree.node OpTree.leaf 68987912448 OpTree.leaf) 68987915008 (OpTree.node OpTree.leaf 68988305670 OpTree.leaf)) 68988308230 (OpTree.node (OpTree.node OpTree.leaf 71672267008 OpTree.leaf) 71672269568 OpTree.leaf)) 71672660230 (OpTree.node (OpTree.node (OpTree.node OpTree.leaf 71672662790 OpTree.leaf) 94757716230 OpTree.leaf) 94757718790 (OpTree.node (OpTree.node OpTree.leaf 94758109440 OpTree.leaf) 94758112000 OpTree.leaf))) 97442070790 (OpTree.node (OpTree.node (OpTree.node (OpTree.node OpTree.leaf 97442073350 OpTree.leaf) 97442464000 OpTree.leaf) 97442466560 (OpTree.node (OpTree.node OpTree.leaf 756182679808 OpTree.leaf) 756182682368 OpTree.leaf)) 756183073030 (OpTree.node (OpTree.node (OpTree.node OpTree.leaf 756183075590 OpTree.leaf) 758867034368 OpTree.leaf) 758867036928 (OpTree.node (OpTree.node OpTree.leaf 758867427590 OpTree.leaf) 758867430150 OpTree.leaf)))) 781952483590 (OpTree.node (OpTree.node (OpTree.node (OpTree.node (OpTree.node OpTree.leaf 781952486150 OpTree.leaf) 781952876800 OpTree.leaf) 781952879360 (OpTree.node (OpTree.node OpTree.leaf 784636838150 OpTree.leaf) 784636840710 OpTree.leaf)) 784637231360 (OpTree.node (OpTree.node (OpTree.node OpTree.leaf 784637233920 OpTree.leaf) 1099512680448 OpTree.leaf) 1099512721408 (OpTree.node (OpTree.node OpTree.leaf 1099513073670 OpTree.leaf) 1099513114630 OpTree.leaf))) 1099523166208 (OpTree.node (OpTree.node (OpTree.node (OpTree.node OpTree.leaf 1099523207168 OpTree.leaf) 1099523559430 OpTree.leaf) 1099523600390 (OpTree.node (OpTree.node OpTree.leaf 1125282484230 OpTree.leaf) 1125282525190 OpTree.leaf)) 1125282877440 (OpTree.node (OpTree.node (OpTree.node OpTree.leaf 1125282918400 OpTree.leaf) 1125292969990 OpTree.leaf) 1125293010950 (OpTree.node (OpTree.node OpTree.leaf 1125293363200 OpTree.leaf) 1125293404160 OpTree.leaf))))) 12094628958208 (OpTree.node (OpTree.node (OpTree.node (OpTree.node (OpTree.node (OpTree.node OpTree.leaf 12094628999168 OpTree.leaf) 12094629351430 OpTree.leaf) 12094629392390 (OpTree.node (OpTree.node OpTree.leaf 12094639443968 OpTree.leaf) 12094639484928 OpTree.leaf)) 12094639837190 (OpTree.node (OpTree.node (OpTree.node OpTree.leaf 12094639878150 OpTree.leaf) 12120398761990 OpTree.leaf) 12120398802950 (OpTree.node (OpTree.node OpTree.leaf 12120399155200 OpTree.leaf) 12120399196160 OpTree.leaf))) 12120409247750 (OpTree.node (OpTree.node (OpTree.node (OpTree.node OpTree.leaf 12120409288710 OpTree.leaf) 12120409640960 OpTree.leaf) 12120409681920 (OpTree.node (OpTree.node OpTree.leaf 17592202821648 OpTree.leaf) 17592202821808 OpTree.leaf)) 17592203214870 (OpTree.node (OpTree.node (OpTree.node OpTree.leaf 17592203215030 OpTree.leaf) 17592370593808 OpTree.leaf) 17592370593968 (OpTree.node (OpTree.node OpTree.leaf 17592370987030 OpTree.leaf) 17592370987190 OpTree.leaf)))) 17617972625430 (OpTree.node (OpTree.node (OpTree.node (OpTree.node (OpTree.node OpTree.leaf 17617972625590 OpTree.leaf) 17617973018640 OpTree.leaf) 17617973018800 (OpTree.node (OpTree.node OpTree.leaf 17618140397590 OpTree.leaf) 17618140397750 OpTree.leaf)) 17618140790800 (OpTree.node (OpTree.node (OpTree.node OpTree.leaf 17618140790960 OpTree.leaf) 193514063265808 OpTree.leaf) 193514063265968 (OpTree.node (OpTree.node OpTree.leaf 193514063659030 OpTree.leaf) 193514063659190 OpTree.leaf))) 193514231037968 (OpTree.node (OpTree.node (OpTree.node (OpTree.node OpTree.leaf 193514231038128 OpTree.leaf) 193514231431190 OpTree.leaf) 193514231431350 (OpTree.node (OpTree.node OpTree.leaf 193539833069590 OpTree.leaf) 193539833069750 OpTree.leaf)) 193539833462800 (OpTree.node (OpTree.node (OpTree.node OpTree.leaf 193539833462960 OpTree.leaf) 193540000841750 OpTree.leaf) 193540000841910 (OpTree.node (OpTree.node OpTree.leaf 193540001234960 OpTree.leaf) 193540001235120 OpTree.leaf))))))
def ops203 : List Nat := [193527116136464, 17592370790579, 193526948167859, 68987912448, 771752132864, 71672466179, 769067584259, 1099512680448, 1099523403779, 12107513901059, 12107524542464, 193514231038128, 17630858117296, 193514063855641, 17631025299481, 758867036928, 107643210496, 756183269641, 110326972681, 12094639484928, 12094629548041, 1138177871881, 1138168016896, 17592203214870, 193527116529686, 17592371183801, 193526948561081, 68988305670, 771752526086, 71672859401, 769067977481, 1099513073670, 1099523797001, 12107514294281, 12107524935686, 193514231431350, 17630857724086, 193514063462419, 17631025692691, 758867430150, 107642817286, 756182876419, 110327365891, 12094639878150, 12094629154819, 1138178265091, 1138167623686, 17617972625430, 193552885940246, 17618140594361, 193552717971641, 94757716230, 797521936646, 97442269961, 794837388041, 1125282484230, 1125293207561, 12133283704841, 12133294346246, 193540000841910, 17605088313526, 193539833659411, 17605255495699, 784636840710, 81873406726, 781953073411, 84557168899, 12120409288710, 12120399351811, 1112408068099, 1112398213126, 17617973018640, 193552886333456, 17618140987571, 193552718364851, 94758109440, 797522329856, 97442663171, 794837781251, 1125282877440, 1125293600771, 12133284098051, 12133294739456, 193540001235120, 17605087920304, 193539833266201, 17605255888921, 784637233920, 81873013504, 781952680201, 84557562121, 12120409681920, 12120398958601, 1112408461321, 1112397819904]
def tree203 : PdbModel.OpTree := (OpTree.node (OpTree.node (OpTree.node (OpTree.node (OpTree.node (OpTree.node (OpTree.node OpTree.leaf 68987912448 OpTree.leaf) 68988305670 (OpTree.node OpTree.leaf 71672466179 OpTree.leaf)) 71672859401 (OpTree.node (OpTree.node OpTree.leaf 81873013504 OpTree.leaf) 81873406726 OpTree.leaf)) 84557168899 (OpTree.node (OpTree.node (OpTree.node OpTree.leaf 84557562121 OpTree.leaf) 94757716230 OpTree.leaf) 94758109440 (OpTree.node (OpTree.node OpTree.leaf 97442269961 OpTree.leaf) 97442663171 OpTree.leaf))) 107642817286 (OpTree.node (OpTree.node (OpTree.node (OpTree.node OpTree.leaf 107643210496 OpTree.leaf) 110326972681 OpTree.leaf) 110327365891 (OpTree.node (OpTree.node OpTree.leaf 756182876419 OpTree.leaf) 756183269641 OpTree.leaf)) 758867036928 (OpTree.node (OpTree.node (OpTree.node OpTree.leaf 758867430150 OpTree.leaf) 769067584259 OpTree.leaf) 769067977481 (OpTree.node (OpTree.node OpTree.leaf 771752132864 OpTree.leaf) 771752526086 OpTree.leaf)))) 781952680201 (OpTree.node (OpTree.node (OpTree.node (OpTree.node (OpTree.node OpTree.leaf 781953073411 OpTree.leaf) 784636840710 OpTree.leaf) 784637233920 (OpTree.node (OpTree.node OpTree.leaf 794837388041 OpTree.leaf) 794837781251 OpTree.leaf)) 797521936646 (OpTree.node (OpTree.node (OpTree.node OpTree.leaf 797522329856 OpTree.leaf) 1099512680448 OpTree.leaf) 1099513073670 (OpTree.node (OpTree.node OpTree.leaf 1099523403779 OpTree.leaf) 1099523797001 OpTree.leaf))) 1112397819904 (OpTree.node (OpTree.node (OpTree.node (OpTree.node OpTree.leaf 1112398213126 OpTree.leaf) 1112408068099 OpTree.leaf) 1112408461321 (OpTree.node (OpTree.node OpTree.leaf 1125282484230 OpTree.leaf) 1125282877440 OpTree.leaf)) 1125293207561 (OpTree.node (OpTree.node (OpTree.node OpTree.leaf 1125293600771 OpTree.leaf) 1138167623686 OpTree.leaf) 1138168016896 (OpTree.node (OpTree.node OpTree.leaf 1138177871881 OpTree.leaf) 1138178265091 OpTree.leaf))))) 12094629154819 (OpTree.node (OpTree.node (OpTree.node (OpTree.node (OpTree.node (OpTree.node OpTree.leaf 12094629548041 OpTree.leaf) 12094639484928 OpTree.leaf) 12094639878150 (OpTree.node (OpTree.node OpTree.leaf 12107513901059 OpTree.leaf) 12107514294281 OpTree.leaf)) 12107524542464 (OpTree.node (OpTree.node (OpTree.node OpTree.leaf 12107524935686 OpTree.leaf) 12120398958601 OpTree.leaf) 12120399351811 (OpTree.node (OpTree.node OpTree.leaf 12120409288710 OpTree.leaf) 12120409681920 OpTree.leaf))) 12133283704841 (OpTree.node (OpTree.node (OpTree.node (OpTree.node OpTree.leaf 12133284098051 OpTree.leaf) 12133294346246 OpTree.leaf) 12133294739456 (OpTree.node (OpTree.node OpTree.leaf 17592202821648 OpTree.leaf) 17592203214870 OpTree.leaf)) 17592370790579 (OpTree.node (OpTree.node (OpTree.node OpTree.leaf 17592371183801 OpTree.leaf) 17605087920304 OpTree.leaf) 17605088313526 (OpTree.node (OpTree.node OpTree.leaf 17605255495699 OpTree.leaf) 17605255888921 OpTree.leaf)))) 17617972625430 (OpTree.node (OpTree.node (OpTree.node (OpTree.node (OpTree.node OpTree.leaf 17617973018640 OpTree.leaf) 17618140594361 OpTree.leaf) 17618140987571 (OpTree.node (OpTree.node OpTree.leaf 17630857724086 OpTree.leaf) 17630858117296 OpTree.leaf)) 17631025299481 (OpTree.node (OpTree.node (OpTree.node OpTree.leaf 17631025692691 OpTree.leaf) 193514063462419 OpTree.leaf) 193514063855641 (OpTree.node (OpTree.node OpTree.leaf 193514231038128 OpTree.leaf) 193514231431350 OpTree.leaf))) 193526948167859 (OpTree.node (OpTree.node (OpTree.node (OpTree.node OpTree.leaf 193526948561081 OpTree.leaf) 193527116136464 OpTree.leaf) 193527116529686 (OpTree.node (OpTree.node OpTree.leaf 193539833266201 OpTree.leaf) 193539833659411 OpTree.leaf)) 193540000841910 (OpTree.node (OpTree.node (OpTree.node OpTree.leaf 193540001235120 OpTree.leaf) 193552717971641 OpTree.leaf) 193552718364851 (OpTree.node (OpTree.node OpTree.leaf 193552885940246 OpTree.leaf) 193552886333456 OpTree.leaf))))))
def ops204 : List Nat := [193514231037968, 17592370593968, 193514063265968, 68987912448, 758867034368, 71672269568, 756182682368, 1099512680448, 1099523207168, 12094628999168, 12094639443968, 193514231038128, 17592202821808, 193514063265808, 17592370593808, 758867036928, 68987915008, 756182679808, 71672267008, 12094639484928, 12094628958208, 1099523166208, 1099512721408, 17617973018646, 193540001234966, 17618140790966, 193539833462966, 94758109446, 784637231366, 97442466566, 781952879366, 1125282877446, 1125293404166, 12120399196166, 12120409640966, 193540001235126, 17617973018806, 193539833462806, 17618140790806, 784637233926, 94758112006, 781952876806, 97442464006, 12120409681926, 12120399155206, 1125293363206, 1125282918406]
def tree204 : PdbModel.OpTree := (OpTree.node (OpTree.node (OpTree.node (OpTree.node (OpTree.node (OpTree.node OpTree.leaf 68987912448 OpTree.leaf) 68987915008 (OpTree.node OpTree.leaf 71672267008 OpTree.leaf)) 71672269568 (OpTree.node (OpTree.node OpTree.leaf 94758109446 OpTree.leaf) 94758112006 OpTree.leaf)) 97442464006 (OpTree.node (OpTree.node (OpTree.node OpTree.leaf 97442466566 OpTree.leaf) 756182679808 OpTree.leaf) 756182682368 (OpTree.node (OpTree.node OpTree.leaf 758867034368 OpTree.leaf) 758867036928 OpTree.leaf))) 781952876806 (OpTree.node (OpTree.node (OpTree.node (OpTree.node OpTree.leaf 781952879366 OpTree.leaf) 784637231366 OpTree.leaf) 784637233926 (OpTree.node (OpTree.node OpTree.leaf 1099512680448 OpTree.leaf) 1099512721408 OpTree.leaf)) 1099523166208 (OpTree.node (OpTree.node (OpTree.node OpTree.leaf 1099523207168 OpTree.leaf) 1125282877446 OpTree.leaf) 1125282918406 (OpTree.node (OpTree.node OpTree.leaf 1125293363206 OpTree.leaf) 1125293404166 OpTree.leaf)))) 12094628958208 (OpTree.node (OpTree.node (OpTree.node (OpTree.node (OpTree.node OpTree.leaf 12094628999168 OpTree.leaf) 12094639443968 OpTree.leaf) 12094639484928 (OpTree.node (OpTree.node OpTree.leaf 12120399155206 OpTree.leaf) 12120399196166 OpTree.leaf)) 12120409640966 (OpTree.node (OpTree.node (OpTree.node OpTree.leaf 12120409681926 OpTree.leaf) 17592202821648 OpTree.leaf) 17592202821808 (OpTree.node (OpTree.node OpTree.leaf 17592370593808 OpTree.leaf) 17592370593968 OpTree.leaf))) 17617973018646 (OpTree.node (OpTree.node (OpTree.node (OpTree.node OpTree.leaf 17617973018806 OpTree.leaf) 17618140790806 OpTree.leaf) 17618140790966 (OpTree.node (OpTree.node OpTree.leaf 193514063265808 OpTree.leaf) 193514063265968 OpTree.leaf)) 193514231037968 (OpTree.node (OpTree.node (OpTree.node OpTree.leaf 193514231038128 OpTree.leaf) 193539833462806 OpTree.leaf) 193539833462966 (OpTree.node (OpTree.node OpTree.leaf 193540001234966 OpTree.leaf) 193540001235126 OpTree.leaf)))))
def ops205 : List Nat := [193540000841750, 17618140790960, 193514063659190, 68987912448, 784636838150, 97442466560, 756183075590, 1099512680448, 1125293404160, 12094629392390, 12120409247750, 193514231038128, 17617972625590, 193539833462800, 17592370987030, 758867036928, 94757718790, 781952876800, 71672660230, 12094639484928, 12120399155200, 1099523559430, 1125282525190]
def tree205 : PdbModel.OpTree := (OpTree.node (OpTree.node (OpTree.node (OpTree.node (OpTree.node OpTree.leaf 68987912448 OpTree.leaf) 71672660230 (OpTree.node OpTree.leaf 94757718790 OpTree.leaf)) 97442466560 (OpTree.node (OpTree.node OpTree.leaf 756183075590 OpTree.leaf) 758867036928 OpTree.leaf)) 781952876800 (OpTree.node (OpTree.node (OpTree.node OpTree.leaf 784636838150 OpTree.leaf) 1099512680448 OpTree.leaf) 1099523559430 (OpTree.node (OpTree.node OpTree.leaf 1125282525190 OpTree.leaf) 1125293404160 OpTree.leaf))) 12094629392390 (OpTree.node (OpTree.node (OpTree.node (OpTree.node OpTree.leaf 12094639484928 OpTree.leaf) 12120399155200 OpTree.leaf) 12120409247750 (OpTree.node (OpTree.node OpTree.leaf 17592202821648 OpTree.leaf) 17592370987030 OpTree.leaf)) 17617972625590 (OpTree.node (OpTree.node (OpTree.node OpTree.leaf 17618140790960 OpTree.leaf) 193514063659190 OpTree.leaf) 193514231038128 (OpTree.node (OpTree.node OpTree.leaf 193539833462800 OpTree.leaf) 193540000841750 OpTree.leaf))))
def ops206 : List Nat := [193514231431184, 17592370593974, 193514063659190, 68987912448, 758867427584, 71672269574, 756183075590, 1099512680448, 1099523207174, 12094629392390, 12120409247750, 193514231038128, 17592203215024, 193514063265814, 17592370987030, 758867036928, 68988308224, 756182679814, 71672660230, 12094639484928, 12094628958214, 1099523559430, 1125282525190, 17617973018646, 193540000841750, 17618140790960, 193539833069744, 94758109446, 784636838150, 97442466560, 781952486144, 1125282877446, 1125293404160, 12120398802944, 12094639837184, 193540001235126, 17617972625590, 193539833462800, 17618140397584, 784637233926, 94757718790, 781952876800, 97442070784, 12120409681926, 12120399155200, 1125292969984, 1099513114624]
def tree206 : PdbModel.OpTree := (OpTree.node (OpTree.node (OpTree.node (OpTree.node (OpTree.node (OpTree.node OpTree.leaf 68987912448 OpTree.leaf) 68988308224 (OpTree.node OpTree.leaf 71672269574 OpTree.leaf)) 71672660230 (OpTree.node (OpTree.node OpTree.leaf 94757718790 OpTree.leaf) 94758109446 OpTree.leaf)) 97442070784 (OpTree.node (OpTree.node (OpTree.node OpTree.leaf 97442466560 OpTree.leaf) 756182679814 OpTree.leaf) 756183075590 (OpTree.node (OpTree.node OpTree.leaf 758867036928 OpTree.leaf) 758867427584 OpTree.leaf))) 781952486144 (OpTree.node (OpTree.node (OpTree.node (OpTree.node OpTree.leaf 781952876800 OpTree.leaf) 784636838150 OpTree.leaf) 784637233926 (OpTree.node (OpTree.node OpTree.leaf 1099512680448 OpTree.leaf) 1099513114624 OpTree.leaf)) 1099523207174 (OpTree.node (OpTree.node (OpTree.node OpTree.leaf 1099523559430 OpTree.leaf) 1125282525190 OpTree.leaf) 1125282877446 (OpTree.node (OpTree.node OpTree.leaf 1125292969984 OpTree.leaf) 1125293404160 OpTree.leaf)))) 12094628958214 (OpTree.node (OpTree.node (OpTree.node (OpTree.node (OpTree.node OpTree.leaf 12094629392390 OpTree.leaf) 12094639484928 OpTree.leaf) 12094639837184 (OpTree.node (OpTree.node OpTree.leaf 12120398802944 OpTree.leaf) 12120399155200 OpTree.leaf)) 12120409247750 (OpTree.node (OpTree.node (OpTree.node OpTree.leaf 12120409681926 OpTree.leaf) 17592202821648 OpTree.leaf) 17592203215024 (OpTree.node (OpTree.node OpTree.leaf 17592370593974 OpTree.leaf) 17592370987030 OpTree.leaf))) 17617972625590 (OpTree.node (OpTree.node (OpTree.node (OpTree.node OpTree.leaf 17617973018646 OpTree.leaf) 17618140397584 OpTree.leaf) 17618140790960 (OpTree.node (OpTree.node OpTree.leaf 193514063265814 OpTree.leaf) 193514063659190 OpTree.leaf)) 193514231038128 (OpTree.node (OpTree.node (OpTree.node OpTree.leaf 193514231431184 OpTree.leaf) 193539833069744 OpTree.leaf) 193539833462800 (OpTree.node (OpTree.node OpTree.leaf 193540000841750 OpTree.leaf) 193540001235126 OpTree.leaf)))))
def ops207 : List Nat := [12094896341008, 193514231037968, 1102464417808, 17592370593968, 1099780063408, 193514063265968, 12097580695728, 68987912448, 193514047537408, 758867034368, 17592197579008, 71672269568, 17592187095808, 756182682368, 193514058025728, 1099512680448, 1099523207168, 68736299008, 12094628999168, 756098838528, 12094639443968, 68904030208, 755931025408]
def tree207 : PdbModel.OpTree := (OpTree.node (OpTree.node (OpTree.node (OpTree.node (OpTree.node OpTree.leaf 68736299008 OpTree.leaf) 68904030208 (OpTree.node OpTree.leaf 68987912448 OpTree.leaf)) 71672269568 (OpTree.node (OpTree.node OpTree.leaf 755931025408 OpTree.leaf) 756098838528 OpTree.leaf)) 756182682368 (OpTree.node (OpTree.node (OpTree.node OpTree.leaf 758867034368 OpTree.leaf) 1099512680448 OpTree.leaf) 1099523207168 (OpTree.node (OpTree.node OpTree.leaf 1099780063408 OpTree.leaf) 1102464417808 OpTree.leaf))) 12094628999168 (OpTree.node (OpTree.node (OpTree.node (OpTree.node OpTree.leaf 12094639443968 OpTree.leaf) 12094896341008 OpTree.leaf) 12097580695728 (OpTree.node (OpTree.node OpTree.leaf 17592187095808 OpTree.leaf) 17592197579008 OpTree.leaf)) 17592202821648 (OpTree.node (OpTree.node (OpTree.node OpTree.leaf 17592370593968 OpTree.leaf) 193514047537408 OpTree.leaf) 193514058025728 (OpTree.node (OpTree.node OpTree.leaf 193514063265968 OpTree.leaf) 193514231037968 OpTree.leaf))))
def ops208 : List Nat := [12120666538006, 193514231037968, 1128234614806, 17592370593968, 1125550260406, 193514063265968, 12123350892726, 68987912448, 193539817734406, 758867034368, 17617967776006, 71672269568, 17617957292806, 756182682368, 193539828222726, 1099512680448, 1099523207168, 94506496006, 12094628999168, 781869035526, 12094639443968, 94674227206, 781701222406]
def tree208 : PdbModel.OpTree := (OpTree.node (OpTree.node (OpTree.node (OpTree.node (OpTree.node OpTree.leaf 68987912448 OpTree.leaf) 71672269568 (OpTree.node OpTree.leaf 94506496006 OpTree.leaf)) 94674227206 (OpTree.node (OpTree.node OpTree.leaf 756182682368 OpTree.leaf) 758867034368 OpTree.leaf)) 781701222406 (OpTree.node (OpTree.node (OpTree.node OpTree.leaf 781869035526 OpTree.leaf) 1099512680448 OpTree.leaf) 1099523207168 (OpTree.node (OpTree.node OpTree.leaf 1125550260406 OpTree.leaf) 1128234614806 OpTree.leaf))) 12094628999168 (OpTree.node (OpTree.node (OpTree.node (OpTree.node OpTree.leaf 12094639443968 OpTree.leaf) 12120666538006 OpTree.leaf) 12123350892726 (OpTree.node (OpTree.node OpTree.leaf 17592202821648 OpTree.leaf) 17592370593968 OpTree.leaf)) 17617957292806 (OpTree.node (OpTree.node (OpTree.node OpTree.leaf 17617967776006 OpTree.leaf) 193514063265968 OpTree.leaf) 193514231037968 (OpTree.node (OpTree.node OpTree.leaf 193539817734406 OpTree.leaf) 193539828222726 OpTree.leaf))))
def ops209 : List Nat := [12094896341008, 193514231037968, 1102464417808, 17592370593968, 1099780063408, 193514063265968, 12097580695728, 68987912448, 193514047537408, 758867034368, 17592197579008, 71672269568, 17592187095808, 756182682368, 193514058025728, 1099512680448, 1099523207168, 68736299008, 12094628999168, 756098838528, 12094639443968, 68904030208, 755931025408, 17592203214870, 12094896734230, 193514231431190, 1102464811030, 17592370987190, 1099780456630, 193514063659190, 12097581088950, 68988305670, 193514047930630, 758867427590, 17592197972230, 71672662790, 17592187489030, 756183075590, 193514058418950, 1099513073670, 1099523600390, 68736692230, 12094629392390, 756099231750, 12094639837190, 68904423430, 755931418630, 17617972625430, 12120666144790, 193540000841750, 1128234221590, 17618140397750, 1125549867190, 193539833069750, 12123350499510, 94757716230, 193539817341190, 784636838150, 17617967382790, 97442073350, 17617956899590, 781952486150, 193539827829510, 1125282484230, 1125293010950, 94506102790, 12120398802950, 781868642310, 12120409247750, 94673833990, 781700829190, 17617973018640, 12120666538000, 193540001234960, 1128234614800, 17618140790960, 1125550260400, 193539833462960, 12123350892720, 94758109440, 193539817734400, 784637231360, 17617967776000, 97442466560, 17617957292800, 781952879360, 193539828222720, 1125282877440, 1125293404160, 94506496000, 12120399196160, 781869035520, 12120409640960, 94674227200, 781701222400]
def tree209 : PdbModel.OpTree := (OpTree.node (OpTree.node (OpTree.node (OpTree.node (OpTree.node (OpTree.node (OpTree.node OpTree.leaf 68736299008 OpTree.leaf) 68736692230 (OpTree.node OpTree.leaf 68904030208 OpTree.leaf)) 68904423430 (OpTree.node (OpTree.node OpTree.leaf 68987912448 OpTree.leaf) 68988305670 OpTree.leaf)) 71672269568 (OpTree.node (OpTree.node (OpTree.node OpTree.leaf 71672662790 OpTree.leaf) 94506102790 OpTree.leaf) 94506496000 (OpTree.node (OpTree.node OpTree.leaf 94673833990 OpTree.leaf) 94674227200 OpTree.leaf))) 94757716230 (OpTree.node (OpTree.node (OpTree.node (OpTree.node OpTree.leaf 94758109440 OpTree.leaf) 97442073350 OpTree.leaf) 97442466560 (OpTree.node (OpTree.node OpTree.leaf 755931025408 OpTree.leaf) 755931418630 OpTree.leaf)) 756098838528 (OpTree.node (OpTree.node (OpTree.node OpTree.leaf 756099231750 OpTree.leaf) 756182682368 OpTree.leaf) 756183075590 (OpTree.node (OpTree.node OpTree.leaf 758867034368 OpTree.leaf) 758867427590 OpTree.leaf)))) 781700829190 (OpTree.node (OpTree.node (OpTree.node (OpTree.node (OpTree.node OpTree.leaf 781701222400 OpTree.leaf) 781868642310 OpTree.leaf) 781869035520 (OpTree.node (OpTree.node OpTree.leaf 781952486150 OpTree.leaf) 781952879360 OpTree.leaf)) 784636838150 (OpTree.node (OpTree.node (OpTree.node OpTree.leaf 784637231360 OpTree.leaf) 1099512680448 OpTree.leaf) 1099513073670 (OpTree.node (OpTree.node OpTree.leaf 1099523207168 OpTree.leaf) 1099523600390 OpTree.leaf))) 1099780063408 (OpTree.node (OpTree.node (OpTree.node (OpTree.node OpTree.leaf 1099780456630 OpTree.leaf) 1102464417808 OpTree.leaf) 1102464811030 (OpTree.node (OpTree.node OpTree.leaf 1125282484230 OpTree.leaf) 1125282877440 OpTree.leaf)) 1125293010950 (OpTree.node (OpTree.node (OpTree.node OpTree.leaf 1125293404160 OpTree.leaf) 1125549867190 OpTree.leaf) 1125550260400 (OpTree.node (OpTree.node OpTree.leaf 1128234221590 OpTree.leaf) 1128234614800 OpTree.leaf))))) 12094628999168 (OpTree.node (OpTree.node (OpTree.node (OpTree.node (OpTree.node (OpTree.node OpTree.leaf 12094629392390 OpTree.leaf) 12094639443968 OpTree.leaf) 12094639837190 (OpTree.node (OpTree.node OpTree.leaf 12094896341008 OpTree.leaf) 12094896734230 OpTree.leaf)) 12097580695728 (OpTree.node (OpTree.node (OpTree.node OpTree.leaf 12097581088950 OpTree.leaf) 12120398802950 OpTree.leaf) 12120399196160 (OpTree.node (OpTree.node OpTree.leaf 12120409247750 OpTree.leaf) 12120409640960 OpTree.leaf))) 12120666144790 (OpTree.node (OpTree.node (OpTree.node (OpTree.node OpTree.leaf 12120666538000 OpTree.leaf) 12123350499510 OpTree.leaf) 12123350892720 (OpTree.node (OpTree.node OpTree.leaf 17592187095808 OpTree.leaf) 17592187489030 OpTree.leaf)) 17592197579008 (OpTree.node (OpTree.node (OpTree.node OpTree.leaf 17592197972230 OpTree.leaf) 17592202821648 OpTree.leaf) 17592203214870 (OpTree.node (OpTree.node OpTree.leaf 17592370593968 OpTree.leaf) 17592370987190 OpTree.leaf)))) 17617956899590 (OpTree.node (OpTree.node (OpTree.node (OpTree.node (OpTree.node OpTree.leaf 17617957292800 OpTree.leaf) 17617967382790 OpTree.leaf) 17617967776000 (OpTree.node (OpTree.node OpTree.leaf 17617972625430 OpTree.leaf) 17617973018640 OpTree.leaf)) 17618140397750 (OpTree.node (OpTree.node (OpTree.node OpTree.leaf 17618140790960 OpTree.leaf) 193514047537408 OpTree.leaf) 193514047930630 (OpTree.node (OpTree.node OpTree.leaf 193514058025728 OpTree.leaf) 193514058418950 OpTree.leaf))) 193514063265968 (OpTree.node (OpTree.node (OpTree.node (OpTree.node OpTree.leaf 193514063659190 OpTree.leaf) 193514231037968 OpTree.leaf) 193514231431190 (OpTree.node (OpTree.node OpTree.leaf 193539817341190 OpTree.leaf) 193539817734400 OpTree.leaf)) 193539827829510 (OpTree.node (OpTree.node (OpTree.node OpTree.leaf 193539828222720 OpTree.leaf) 193539833069750 OpTree.leaf) 193539833462960 (OpTree.node (OpTree.node OpTree.leaf 193540000841750 OpTree.leaf) 193540001234960 OpTree.leaf))))))
def ops210 : List Nat := [12107781439507, 193514231431190, 1141119320089, 17592370593968, 1112665161907, 193514063659190, 12136235598009, 68987912448, 193526932635907, 758867427590, 17630852481289, 71672269568, 17605072194307, 756183075590, 193552712928009, 1099512680448, 1125293010950, 81621790729, 12120399196160, 768983937027, 12094639443968, 81789521929, 794586320899, 17592203214870, 12107781832729, 193514231037968, 1141119713299, 17592370987190, 1112665555129, 193514063265968, 12136235991219, 68988305670, 193526933029129, 758867034368, 17630852874499, 71672662790, 17605072587529, 756182682368, 193552713321219, 1099513073670, 1125293404160, 81621397507, 12120398802950, 768984330249, 12094639837190, 81789128707, 794585927689, 17617972625430, 12133551243289, 193540001234960, 1115349516307, 17618140397750, 1138434965689, 193539833462960, 12110465794227, 94757716230, 193552702439689, 784637231360, 17605082677507, 97442073350, 17630841998089, 781952879360, 193526943124227, 1125282484230, 1099523207168, 107391594499, 12094629392390, 794753740809, 12120409247750, 107559325699, 768816517129, 17617973018640, 12133551636499, 193540000841750, 1115349909529, 17618140790960, 1138435358899, 193539833069750, 12110466187449, 94758109440, 193552702832899, 784636838150, 17605083070729, 97442466560, 17630842391299, 781952486150, 193526943517449, 1125282877440, 1099523600390, 107391201289, 12094628999168, 794754134019, 12120409640960, 107558932489, 768816123907]
def tree210 : PdbModel.OpTree := (OpTree.node (OpTree.node (OpTree.node (OpTree.node (OpTree.node (OpTree.node (OpTree.node OpTree.leaf 68987912448 OpTree.leaf) 68988305670 (OpTree.node OpTree.leaf 71672269568 OpTree.leaf)) 71672662790 (OpTree.node (OpTree.node OpTree.leaf 81621397507 OpTree.leaf) 81621790729 OpTree.leaf)) 81789128707 (OpTree.node (OpTree.node (OpTree.node OpTree.leaf 81789521929 OpTree.leaf) 94757716230 OpTree.leaf) 94758109440 (OpTree.node (OpTree.node OpTree.leaf 97442073350 OpTree.leaf) 97442466560 OpTree.leaf))) 107391201289 (OpTree.node (OpTree.node (OpTree.node (OpTree.node OpTree.leaf 107391594499 OpTree.leaf) 107558932489 OpTree.leaf) 107559325699 (OpTree.node (OpTree.node OpTree.leaf 756182682368 OpTree.leaf) 756183075590 OpTree.leaf)) 758867034368 (OpTree.node (OpTree.node (OpTree.node OpTree.leaf 758867427590 OpTree.leaf) 768816123907 OpTree.leaf) 768816517129 (OpTree.node (OpTree.node OpTree.leaf 768983937027 OpTree.leaf) 768984330249 OpTree.leaf)))) 781952486150 (OpTree.node (OpTree.node (OpTree.node (OpTree.node (OpTree.node OpTree.leaf 781952879360 OpTree.leaf) 784636838150 OpTree.leaf) 784637231360 (OpTree.node (OpTree.node OpTree.leaf 794585927689 OpTree.leaf) 794586320899 OpTree.leaf)) 794753740809 (OpTree.node (OpTree.node (OpTree.node OpTree.leaf 794754134019 OpTree.leaf) 1099512680448 OpTree.leaf) 1099513073670 (OpTree.node (OpTree.node OpTree.leaf 1099523207168 OpTree.leaf) 1099523600390 OpTree.leaf))) 1112665161907 (OpTree.node (OpTree.node (OpTree.node (OpTree.node OpTree.leaf 1112665555129 OpTree.leaf) 1115349516307 OpTree.leaf) 1115349909529 (OpTree.node (OpTree.node OpTree.leaf 1125282484230 OpTree.leaf) 1125282877440 OpTree.leaf)) 1125293010950 (OpTree.node (OpTree.node (OpTree.node OpTree.leaf 1125293404160 OpTree.leaf) 1138434965689 OpTree.leaf) 1138435358899 (OpTree.node (OpTree.node OpTree.leaf 1141119320089 OpTree.leaf) 1141119713299 OpTree.leaf))))) 12094628999168 (OpTree.node (OpTree.node (OpTree.node (OpTree.node (OpTree.node (OpTree.node OpTree.leaf 12094629392390 OpTree.leaf) 12094639443968 OpTree.leaf) 12094639837190 (OpTree.node (OpTree.node OpTree.leaf 12107781439507 OpTree.leaf) 12107781832729 OpTree.leaf)) 12110465794227 (OpTree.node (OpTree.node (OpTree.node OpTree.leaf 12110466187449 OpTree.leaf) 12120398802950 OpTree.leaf) 12120399196160 (OpTree.node (OpTree.node OpTree.leaf 12120409247750 OpTree.leaf) 12120409640960 OpTree.leaf))) 12133551243289 (OpTree.node (OpTree.node (OpTree.node (OpTree.node OpTree.leaf 12133551636499 OpTree.leaf) 12136235598009 OpTree.leaf) 12136235991219 (OpTree.node (OpTree.node OpTree.leaf 17592202821648 OpTree.leaf) 17592203214870 OpTree.leaf)) 17592370593968 (OpTree.node (OpTree.node (OpTree.node OpTree.leaf 17592370987190 OpTree.leaf) 17605072194307 OpTree.leaf) 17605072587529 (OpTree.node (OpTree.node OpTree.leaf 17605082677507 OpTree.leaf) 17605083070729 OpTree.leaf)))) 17617972625430 (OpTree.node (OpTree.node (OpTree.node (OpTree.node (OpTree.node OpTree.leaf 17617973018640 OpTree.leaf) 17618140397750 OpTree.leaf) 17618140790960 (OpTree.node (OpTree.node OpTree.leaf 17630841998089 OpTree.leaf) 17630842391299 OpTree.leaf)) 17630852481289 (OpTree.node (OpTree.node (OpTree.node OpTree.leaf 17630852874499 OpTree.leaf) 193514063265968 OpTree.leaf) 193514063659190 (OpTree.node (OpTree.node OpTree.leaf 193514231037968 OpTree.leaf) 193514231431190 OpTree.leaf))) 193526932635907 (OpTree.node (OpTree.node (OpTree.node (OpTree.node OpTree.leaf 193526933029129 OpTree.leaf) 193526943124227 OpTree.leaf) 193526943517449 (OpTree.node (OpTree.node OpTree.leaf 193539833069750 OpTree.leaf) 193539833462960 OpTree.leaf)) 193540000841750 (OpTree.node (OpTree.node (OpTree.node OpTree.leaf 193540001234960 OpTree.leaf) 193552702439689 OpTree.leaf) 193552702832899 (OpTree.node (OpTree.node OpTree.leaf 193552712928009 OpTree.leaf) 193552713321219 OpTree.leaf))))))
def ops211 : List Nat := [12094896341008, 193514231037968, 1102464417808, 17592370593968, 1099780063408, 193514063265968, 12097580695728, 68987912448, 193514047537408, 758867034368, 17592197579008, 71672269568, 17592187095808, 756182682368, 193514058025728, 1099512680448, 1099523207168, 68736299008, 12094628999168, 756098838528, 12094639443968, 68904030208, 755931025408, 17617973018646, 12120666538006, 193540001234966, 1128234614806, 17618140790966, 1125550260406, 193539833462966, 12123350892726, 94758109446, 193539817734406, 784637231366, 17617967776006, 97442466566, 17617957292806, 781952879366, 193539828222726, 1125282877446, 1125293404166, 94506496006, 12120399196166, 781869035526, 12120409640966, 94674227206, 781701222406]
def tree211 : PdbModel.OpTree := (OpTree.node (OpTree.node (OpTree.node (OpTree.node (OpTree.node (OpTree.node OpTree.leaf 68736299008 OpTree.leaf) 68904030208 (OpTree.node OpTree.leaf 68987912448 OpTree.leaf)) 71672269568 (OpTree.node (OpTree.node OpTree.leaf 94506496006 OpTree.leaf) 94674227206 OpTree.leaf)) 94758109446 (OpTree.node (OpTree.node (OpTree.node OpTree.leaf 97442466566 OpTree.leaf) 755931025408 OpTree.leaf) 756098838528 (OpTree.node (OpTree.node OpTree.leaf 756182682368 OpTree.leaf) 758867034368 OpTree.leaf))) 781701222406 (OpTree.node (OpTree.node (OpTree.node (OpTree.node OpTree.leaf 781869035526 OpTree.leaf) 781952879366 OpTree.leaf) 784637231366 (OpTree.node (OpTree.node OpTree.leaf 1099512680448 OpTree.leaf) 1099523207168 OpTree.leaf)) 1099780063408 (OpTree.node (OpTree.node (OpTree.node OpTree.leaf 1102464417808 OpTree.leaf) 1125282877446 OpTree.leaf) 1125293404166 (OpTree.node (OpTree.node OpTree.leaf 1125550260406 OpTree.leaf) 1128234614806 OpTree.leaf)))) 12094628999168 (OpTree.node (OpTree.node (OpTree.node (OpTree.node (OpTree.node OpTree.leaf 12094639443968 OpTree.leaf) 12094896341008 OpTree.leaf) 12097580695728 (OpTree.node (OpTree.node OpTree.leaf 12120399196166 OpTree.leaf) 12120409640966 OpTree.leaf)) 12120666538006 (OpTree.node (OpTree.node (OpTree.node OpTree.leaf 12123350892726 OpTree.leaf) 17592187095808 OpTree.leaf) 17592197579008 (OpTree.node (OpTree.node OpTree.leaf 17592202821648 OpTree.leaf) 17592370593968 OpTree.leaf))) 17617957292806 (OpTree.node (OpTree.node (OpTree.node (OpTree.node OpTree.leaf 17617967776006 OpTree.leaf) 17617973018646 OpTree.leaf) 17618140790966 (OpTree.node (OpTree.node OpTree.leaf 193514047537408 OpTree.leaf) 193514058025728 OpTree.leaf)) 193514063265968 (OpTree.node (OpTree.node (OpTree.node OpTree.leaf 193514231037968 OpTree.leaf) 193539817734406 OpTree.leaf) 193539828222726 (OpTree.node (OpTree.node OpTree.leaf 193539833462966 OpTree.leaf) 193540001234966 OpTree.leaf)))))
def ops212 : List Nat := [12133551243289, 193540000841750, 1141119713299, 17618140790960, 1112665555129, 193514063659190, 12110465794227, 68987912448, 193552702439689, 784636838150, 17630852874499, 97442466560, 17605072587529, 756183075590, 193526943124227, 1099512680448, 1125293404160, 81621790729, 12094629392390, 768983937027, 12120409247750, 107559325699, 794585927689]
def tree212 : PdbModel.OpTree := (OpTree.node (OpTree.node (OpTree.node (OpTree.node (OpTree.node OpTree.leaf 68987912448 OpTree.leaf) 81621790729 (OpTree.node OpTree.leaf 97442466560 OpTree.leaf)) 107559325699 (OpTree.node (OpTree.node OpTree.leaf 756183075590 OpTree.leaf) 768983937027 OpTree.leaf)) 784636838150 (OpTree.node (OpTree.node (OpTree.node OpTree.leaf 794585927689 OpTree.leaf) 1099512680448 OpTree.leaf) 1112665555129 (OpTree.node (OpTree.node OpTree.leaf 1125293404160 OpTree.leaf) 1141119713299 OpTree.leaf))) 12094629392390 (OpTree.node (OpTree.node (OpTree.node (OpTree.node OpTree.leaf 12110465794227 OpTree.leaf) 12120409247750 OpTree.leaf) 12133551243289 (OpTree.node (OpTree.node OpTree.leaf 17592202821648 OpTree.leaf) 17605072587529 OpTree.leaf)) 17618140790960 (OpTree.node (OpTree.node (OpTree.node OpTree.leaf 17630852874499 OpTree.leaf) 193514063659190 OpTree.leaf) 193526943124227 (OpTree.node (OpTree.node OpTree.leaf 193540000841750 OpTree.leaf) 193552702439689 OpTree.leaf))))
def ops213 : List Nat := [12107781832723, 193540000841750, 1115349516313, 17618140790960, 1138434965683, 193514063659190, 12136235991225, 68987912448, 193526933029123, 784636838150, 17605082677513, 97442466560, 17630841998083, 756183075590, 193552713321225, 1099512680448, 1125293404160, 107391201283, 12094629392390, 794754134025, 12120409247750, 81789128713, 768816517123]
def tree213 : PdbModel.OpTree := (OpTree.node (OpTree.node (OpTree.node (OpTree.node (OpTree.node OpTree.leaf 68987912448 OpTree.leaf) 81789128713 (OpTree.node OpTree.leaf 97442466560 OpTree.leaf)) 107391201283 (OpTree.node (OpTree.node OpTree.leaf 756183075590 OpTree.leaf) 768816517123 OpTree.leaf)) 784636838150 (OpTree.node (OpTree.node (OpTree.node OpTree.leaf 794754134025 OpTree.leaf) 1099512680448 OpTree.leaf) 1115349516313 (OpTree.node (OpTree.node OpTree.leaf 1125293404160 OpTree.leaf) 1138434965683 OpTree.leaf))) 12094629392390 (OpTree.node (OpTree.node (OpTree.node (OpTree.node OpTree.leaf 12107781832723 OpTree.leaf) 12120409247750 OpTree.leaf) 12136235991225 (OpTree.node (OpTree.node OpTree.leaf 17592202821648 OpTree.leaf) 17605082677513 OpTree.leaf)) 17618140790960 (OpTree.node (OpTree.node (OpTree.node OpTree.leaf 17630841998083 OpTree.leaf) 193514063659190 OpTree.leaf) 193526933029123 (OpTree.node (OpTree.node OpTree.leaf 193540000841750 OpTree.leaf) 193552713321225 OpTree.leaf))))
def ops214 : List Nat := [12107781832723, 193540000841750, 1115349516313, 17592370593974, 1112665555129, 193539833069744, 12110465794227, 68987912448, 193526933029123, 784636838150, 17605082677513, 71672269574, 17605072587529, 781952486144, 193526943124227, 1099512680448, 1125293404160, 107391201283, 12094629392390, 768983937027, 12120409247750, 107559325699, 794585927689, 17617973018646, 12133551243289, 193514231431184, 1141119713299, 17618140790960, 1138434965683, 193514063659190, 12136235991225, 94758109446, 193552702439689, 758867427584, 17630852874499, 97442466560, 17630841998083, 756183075590, 193552713321225, 1125282877446, 1099523207174, 81621790729, 12120398802944, 794754134025, 12094639837184, 81789128713, 768816517123]
def tree214 : PdbModel.OpTree := (OpTree.node (OpTree.node (OpTree.node (OpTree.node (OpTree.node (OpTree.node OpTree.leaf 68987912448 OpTree.leaf) 71672269574 (OpTree.node OpTree.leaf 81621790729 OpTree.leaf)) 81789128713 (OpTree.node (OpTree.node OpTree.leaf 94758109446 OpTree.leaf) 97442466560 OpTree.leaf)) 107391201283 (OpTree.node (OpTree.node (OpTree.node OpTree.leaf 107559325699 OpTree.leaf) 756183075590 OpTree.leaf) 758867427584 (OpTree.node (OpTree.node OpTree.leaf 768816517123 OpTree.leaf) 768983937027 OpTree.leaf))) 781952486144 (OpTree.node (OpTree.node (OpTree.node (OpTree.node OpTree.leaf 784636838150 OpTree.leaf) 794585927689 OpTree.leaf) 794754134025 (OpTree.node (OpTree.node OpTree.leaf 1099512680448 OpTree.leaf) 1099523207174 OpTree.leaf)) 1112665555129 (OpTree.node (OpTree.node (OpTree.node OpTree.leaf 1115349516313 OpTree.leaf) 1125282877446 OpTree.leaf) 1125293404160 (OpTree.node (OpTree.node OpTree.leaf 1138434965683 OpTree.leaf) 1141119713299 OpTree.leaf)))) 12094629392390 (OpTree.node (OpTree.node (OpTree.node (OpTree.node (OpTree.node OpTree.leaf 12094639837184 OpTree.leaf) 12107781832723 OpTree.leaf) 12110465794227 (OpTree.node (OpTree.node OpTree.leaf 12120398802944 OpTree.leaf) 12120409247750 OpTree.leaf)) 12133551243289 (OpTree.node (OpTree.node (OpTree.node OpTree.leaf 12136235991225 OpTree.leaf) 17592202821648 OpTree.leaf) 17592370593974 (OpTree.node (OpTree.node OpTree.leaf 17605072587529 OpTree.leaf) 17605082677513 OpTree.leaf))) 17617973018646 (OpTree.node (OpTree.node (OpTree.node (OpTree.node OpTree.leaf 17618140790960 OpTree.leaf) 17630841998083 OpTree.leaf) 17630852874499 (OpTree.node (OpTree.node OpTree.leaf 193514063659190 OpTree.leaf) 193514231431184 OpTree.leaf)) 193526933029123 (OpTree.node (OpTree.node (OpTree.node OpTree.leaf 193526943124227 OpTree.leaf) 193539833069744 OpTree.leaf) 193540000841750 (OpTree.node (OpTree.node OpTree.leaf 193552702439689 OpTree.leaf) 193552713321225 OpTree.leaf)))))
def ops215 : List Nat := [1102464417968, 193514231037968, 12094896341168, 17592370593968, 12097580695568, 193514063265968, 1099780063248, 68987912448, 17592197581568, 758867034368, 193514047539968, 71672269568, 193514058023168, 756182682368, 17592187093248, 1099512680448, 1099523207168, 756098797568, 12094628999168, 68736258048, 12094639443968, 755931066368, 68904071168]
def tree215 : PdbModel.OpTree := (OpTree.node (OpTree.node (OpTree.node (OpTree.node (OpTree.node OpTree.leaf 68736258048 OpTree.leaf) 68904071168 (OpTree.node OpTree.leaf 68987912448 OpTree.leaf)) 71672269568 (OpTree.node (OpTree.node OpTree.leaf 755931066368 OpTree.leaf) 756098797568 OpTree.leaf)) 756182682368 (OpTree.node (OpTree.node (OpTree.node OpTree.leaf 758867034368 OpTree.leaf) 1099512680448 OpTree.leaf) 1099523207168 (OpTree.node (OpTree.node OpTree.leaf 1099780063248 OpTree.leaf) 1102464417968 OpTree.leaf))) 12094628999168 (OpTree.node (OpTree.node (OpTree.node (OpTree.node OpTree.leaf 12094639443968 OpTree.leaf) 12094896341168 OpTree.leaf) 12097580695568 (OpTree.node (OpTree.node OpTree.leaf 17592187093248 OpTree.leaf) 17592197581568 OpTree.leaf)) 17592202821648 (OpTree.node (OpTree.node (OpTree.node OpTree.leaf 17592370593968 OpTree.leaf) 193514047539968 OpTree.leaf) 193514058023168 (OpTree.node (OpTree.node OpTree.leaf 193514063265968 OpTree.leaf) 193514231037968 OpTree.leaf))))
def ops216 : List Nat := [1102464417968, 193514231037968, 12094896341168, 17592370593968, 12097580695568, 193514063265968, 1099780063248, 68987912448, 17592197581568, 758867034368, 193514047539968, 71672269568, 193514058023168, 756182682368, 17592187093248, 1099512680448, 1099523207168, 756098797568, 12094628999168, 68736258048, 12094639443968, 755931066368, 68904071168, 17592203214870, 1102464811190, 193514231431190, 12094896734390, 17592370987190, 12097581088790, 193514063659190, 1099780456470, 68988305670, 17592197974790, 758867427590, 193514047933190, 71672662790, 193514058416390, 756183075590, 17592187486470, 1099513073670, 1099523600390, 756099190790, 12094629392390, 68736651270, 12094639837190, 755931459590, 68904464390, 17617972625430, 1128234221750, 193540000841750, 12120666144950, 17618140397750, 12123350499350, 193539833069750, 1125549867030, 94757716230, 17617967385350, 784636838150, 193539817343750, 97442073350, 193539827826950, 781952486150, 17617956897030, 1125282484230, 1125293010950, 781868601350, 12120398802950, 94506061830, 12120409247750, 781700870150, 94673874950, 17617973018640, 1128234614960, 193540001234960, 12120666538160, 17618140790960, 12123350892560, 193539833462960, 1125550260240, 94758109440, 17617967778560, 784637231360, 193539817736960, 97442466560, 193539828220160, 781952879360, 17617957290240, 1125282877440, 1125293404160, 781868994560, 12120399196160, 94506455040, 12120409640960, 781701263360, 94674268160]
def tree216 : PdbModel.OpTree := (OpTree.node (OpTree.node (OpTree.node (OpTree.node (OpTree.node (OpTree.node (OpTree.node OpTree.leaf 68736258048 OpTree.leaf) 68736651270 (OpTree.node OpTree.leaf 68904071168 OpTree.leaf)) 68904464390 (OpTree.node (OpTree.node OpTree.leaf 68987912448 OpTree.leaf) 68988305670 OpTree.leaf)) 71672269568 (OpTree.node (OpTree.node (OpTree.node OpTree.leaf 71672662790 OpTree.leaf) 94506061830 OpTree.leaf) 94506455040 (OpTree.node (OpTree.node OpTree.leaf 94673874950 OpTree.leaf) 94674268160 OpTree.leaf))) 94757716230 (OpTree.node (OpTree.node (OpTree.node (OpTree.node OpTree.leaf 94758109440 OpTree.leaf) 97442073350 OpTree.leaf) 97442466560 (OpTree.node (OpTree.node OpTree.leaf 755931066368 OpTree.leaf) 755931459590 OpTree.leaf)) 756098797568 (OpTree.node (OpTree.node (OpTree.node OpTree.leaf 756099190790 OpTree.leaf) 756182682368 OpTree.leaf) 756183075590 (OpTree.node (OpTree.node OpTree.leaf 758867034368 OpTree.leaf) 758867427590 OpTree.leaf)))) 781700870150 (OpTree.node (OpTree.node (OpTree.node (OpTree.node (OpTree.node OpTree.leaf 781701263360 OpTree.leaf) 781868601350 OpTree.leaf) 781868994560 (OpTree.node (OpTree.node OpTree.leaf 781952486150 OpTree.leaf) 781952879360 OpTree.leaf)) 784636838150 (OpTree.node (OpTree.node (OpTree.node OpTree.leaf 784637231360 OpTree.leaf) 1099512680448 OpTree.leaf) 1099513073670 (OpTree.node (OpTree.node OpTree.leaf 1099523207168 OpTree.leaf) 1099523600390 OpTree.leaf))) 1099780063248 (OpTree.node (OpTree.node (OpTree.node (OpTree.node OpTree.leaf 1099780456470 OpTree.leaf) 1102464417968 OpTree.leaf) 1102464811190 (OpTree.node (OpTree.node OpTree.leaf 1125282484230 OpTree.leaf) 1125282877440 OpTree.leaf)) 1125293010950 (OpTree.node (OpTree.node (OpTree.node OpTree.leaf 1125293404160 OpTree.leaf) 1125549867030 OpTree.leaf) 1125550260240 (OpTree.node (OpTree.node OpTree.leaf 1128234221750 OpTree.leaf) 1128234614960 OpTree.leaf))))) 12094628999168 (OpTree.node (OpTree.node (OpTree.node (OpTree.node (OpTree.node (OpTree.node OpTree.leaf 12094629392390 OpTree.leaf) 12094639443968 OpTree.leaf) 12094639837190 (OpTree.node (OpTree.node OpTree.leaf 12094896341168 OpTree.leaf) 12094896734390 OpTree.leaf)) 12097580695568 (OpTree.node (OpTree.node (OpTree.node OpTree.leaf 12097581088790 OpTree.leaf) 12120398802950 OpTree.leaf) 12120399196160 (OpTree.node (OpTree.node OpTree.leaf 12120409247750 OpTree.leaf) 12120409640960 OpTree.leaf))) 12120666144950 (OpTree.node (OpTree.node (OpTree.node (OpTree.node OpTree.leaf 12120666538160 OpTree.leaf) 12123350499350 OpTree.leaf) 12123350892560 (OpTree.node (OpTree.node OpTree.leaf 17592187093248 OpTree.leaf) 17592187486470 OpTree.leaf)) 17592197581568 (OpTree.node (OpTree.node (OpTree.node OpTree.leaf 17592197974790 OpTree.leaf) 17592202821648 OpTree.leaf) 17592203214870 (OpTree.node (OpTree.node OpTree.leaf 17592370593968 OpTree.leaf) 17592370987190 OpTree.leaf)))) 17617956897030 (OpTree.node (OpTree.node (OpTree.node (OpTree.node (OpTree.node OpTree.leaf 17617957290240 OpTree.leaf) 17617967385350 OpTree.leaf) 17617967778560 (OpTree.node (OpTree.node OpTree.leaf 17617972625430 OpTree.leaf) 17617973018640 OpTree.leaf)) 17618140397750 (OpTree.node (OpTree.node (OpTree.node OpTree.leaf 17618140790960 OpTree.leaf) 193514047539968 OpTree.leaf) 193514047933190 (OpTree.node (OpTree.node OpTree.leaf 193514058023168 OpTree.leaf) 193514058416390 OpTree.leaf))) 193514063265968 (OpTree.node (OpTree.node (OpTree.node (OpTree.node OpTree.leaf 193514063659190 OpTree.leaf) 193514231037968 OpTree.leaf) 193514231431190 (OpTree.node (OpTree.node OpTree.leaf 193539817343750 OpTree.leaf) 193539817736960 OpTree.leaf)) 193539827826950 (OpTree.node (OpTree.node (OpTree.node OpTree.leaf 193539828220160 OpTree.leaf) 193539833069750 OpTree.leaf) 193539833462960 (OpTree.node (OpTree.node OpTree.leaf 193540000841750 OpTree.leaf) 193540001234960 OpTree.leaf))))))
def ops217 : List Nat := [1102464417968, 193514231037968, 12094896341168, 17592370593968, 12097580695568, 193514063265968, 1099780063248, 68987912448, 17592197581568, 758867034368, 193514047539968, 71672269568, 193514058023168, 756182682368, 17592187093248, 1099512680448, 1099523207168, 756098797568, 12094628999168, 68736258048, 12094639443968, 755931066368, 68904071168, 17617973018646, 1128234614966, 193540001234966, 12120666538166, 17618140790966, 12123350892566, 193539833462966, 1125550260246, 94758109446, 17617967778566, 784637231366, 193539817736966, 97442466566, 193539828220166, 781952879366, 17617957290246, 1125282877446, 1125293404166, 781868994566, 12120399196166, 94506455046, 12120409640966, 781701263366, 94674268166]
def tree217 : PdbModel.OpTree := (OpTree.node (OpTree.node (OpTree.node (OpTree.node (OpTree.node (OpTree.node OpTree.leaf 68736258048 OpTree.leaf) 68904071168 (OpTree.node OpTree.leaf 68987912448 OpTree.leaf)) 71672269568 (OpTree.node (OpTree.node OpTree.leaf 94506455046 OpTree.leaf) 94674268166 OpTree.leaf)) 94758109446 (OpTree.node (OpTree.node (OpTree.node OpTree.leaf 97442466566 OpTree.leaf) 755931066368 OpTree.leaf) 756098797568 (OpTree.node (OpTree.node OpTree.leaf 756182682368 OpTree.leaf) 758867034368 OpTree.leaf))) 781701263366 (OpTree.node (OpTree.node (OpTree.node (OpTree.node OpTree.leaf 781868994566 OpTree.leaf) 781952879366 OpTree.leaf) 784637231366 (OpTree.node (OpTree.node OpTree.leaf 1099512680448 OpTree.leaf) 1099523207168 OpTree.leaf)) 1099780063248 (OpTree.node (OpTree.node (OpTree.node OpTree.leaf 1102464417968 OpTree.leaf) 1125282877446 OpTree.leaf) 1125293404166 (OpTree.node (OpTree.node OpTree.leaf 1125550260246 OpTree.leaf) 1128234614966 OpTree.leaf)))) 12094628999168 (OpTree.node (OpTree.node (OpTree.node (OpTree.node (OpTree.node OpTree.leaf 12094639443968 OpTree.leaf) 12094896341168 OpTree.leaf) 12097580695568 (OpTree.node (OpTree.node OpTree.leaf 12120399196166 OpTree.leaf) 12120409640966 OpTree.leaf)) 12120666538166 (OpTree.node (OpTree.node (OpTree.node OpTree.leaf 12123350892566 OpTree.leaf) 17592187093248 OpTree.leaf) 17592197581568 (OpTree.node (OpTree.node OpTree.leaf 17592202821648 OpTree.leaf) 17592370593968 OpTree.leaf))) 17617957290246 (OpTree.node (OpTree.node (OpTree.node (OpTree.node OpTree.leaf 17617967778566 OpTree.leaf) 17617973018646 OpTree.leaf) 17618140790966 (OpTree.node (OpTree.node OpTree.leaf 193514047539968 OpTree.leaf) 193514058023168 OpTree.leaf)) 193514063265968 (OpTree.node (OpTree.node (OpTree.node OpTree.leaf 193514231037968 OpTree.leaf) 193539817736966 OpTree.leaf) 193539828220166 (OpTree.node (OpTree.node OpTree.leaf 193539833462966 OpTree.leaf) 193540001234966 OpTree.leaf)))))
def ops218 : List Nat := [1128234614966, 193514231037968, 12120666538166, 17592370593968, 12123350892566, 193514063265968, 1125550260246, 68987912448, 17617967778566, 758867034368, 193539817736966, 71672269568, 193539828220166, 756182682368, 17617957290246, 1099512680448, 1099523207168, 781868994566, 12094628999168, 94506455046, 12094639443968, 781701263366, 94674268166]
def tree218 : PdbModel.OpTree := (OpTree.node (OpTree.node (OpTree.node (OpTree.node (OpTree.node OpTree.leaf 68987912448 OpTree.leaf) 71672269568 (OpTree.node OpTree.leaf 94506455046 OpTree.leaf)) 94674268166 (OpTree.node (OpTree.node OpTree.leaf 756182682368 OpTree.leaf) 758867034368 OpTree.leaf)) 781701263366 (OpTree.node (OpTree.node (OpTree.node OpTree.leaf 781868994566 OpTree.leaf) 1099512680448 OpTree.leaf) 1099523207168 (OpTree.node (OpTree.node OpTree.leaf 1125550260246 OpTree.leaf) 1128234614966 OpTree.leaf))) 12094628999168 (OpTree.node (OpTree.node (OpTree.node (OpTree.node OpTree.leaf 12094639443968 OpTree.leaf) 12120666538166 OpTree.leaf) 12123350892566 (OpTree.node (OpTree.node OpTree.leaf 17592202821648 OpTree.leaf) 17592370593968 OpTree.leaf)) 17617957290246 (OpTree.node (OpTree.node (OpTree.node OpTree.leaf 17617967778566 OpTree.leaf) 193514063265968 OpTree.leaf) 193514231037968 (OpTree.node (OpTree.node OpTree.leaf 193539817736966 OpTree.leaf) 193539828220166 OpTree.leaf))))
def ops219 : List Nat := [1128234221744, 193540001234960, 12094896734384, 17592370593968, 12123350499344, 193539833462960, 1099780456464, 68987912448, 17617967385344, 784637231360, 193514047933184, 71672269568, 193539827826944, 781952879360, 17592187486464, 1099512680448, 1099523600390, 756098797574, 12120398802950, 94506061824, 12094639443968, 755931066374, 94674268166, 17592203214870, 1128234614966, 193540000841750, 12094896341174, 17592370987190, 12123350892566, 193539833069750, 1099780063254, 68988305670, 17617967778566, 784636838150, 193514047539974, 71672662790, 193539828220166, 781952486150, 17592187093254, 1099513073670, 1099523207168, 756099190784, 12120399196160, 94506455046, 12094639837190, 755931459584, 94673874944, 17617972625430, 1102464417974, 193514231431190, 12120666538166, 17618140397750, 12097580695574, 193514063659190, 1125550260246, 94757716230, 17592197581574, 758867427590, 193539817736966, 97442073350, 193514058023174, 756183075590, 17617957290246, 1125282484230, 1125293404160, 781868601344, 12094628999168, 68736258054, 12120409247750, 781700870144, 68904464384, 17617973018640, 1102464811184, 193514231037968, 12120666144944, 17618140790960, 12097581088784, 193514063265968, 1125549867024, 94758109440, 17592197974784, 758867034368, 193539817343744, 97442466560, 193514058416384, 756182682368, 17617956897024, 1125282877440, 1125293010950, 781868994566, 12094629392390, 68736651264, 12120409640960, 781701263366, 68904071174]
def tree219 : PdbModel.OpTree := (OpTree.node (OpTree.node (OpTree.node (OpTree.node (OpTree.node (OpTree.node (OpTree.node OpTree.leaf 68736258054 OpTree.leaf) 68736651264 (OpTree.node OpTree.leaf 68904071174 OpTree.leaf)) 68904464384 (OpTree.node (OpTree.node OpTree.leaf 68987912448 OpTree.leaf) 68988305670 OpTree.leaf)) 71672269568 (OpTree.node (OpTree.node (OpTree.node OpTree.leaf 71672662790 OpTree.leaf) 94506061824 OpTree.leaf) 94506455046 (OpTree.node (OpTree.node OpTree.leaf 94673874944 OpTree.leaf) 94674268166 OpTree.leaf))) 94757716230 (OpTree.node (OpTree.node (OpTree.node (OpTree.node OpTree.leaf 94758109440 OpTree.leaf) 97442073350 OpTree.leaf) 97442466560 (OpTree.node (OpTree.node OpTree.leaf 755931066374 OpTree.leaf) 755931459584 OpTree.leaf)) 756098797574 (OpTree.node (OpTree.node (OpTree.node OpTree.leaf 756099190784 OpTree.leaf) 756182682368 OpTree.leaf) 756183075590 (OpTree.node (OpTree.node OpTree.leaf 758867034368 OpTree.leaf) 758867427590 OpTree.leaf)))) 781700870144 (OpTree.node (OpTree.node (OpTree.node (OpTree.node (OpTree.node OpTree.leaf 781701263366 OpTree.leaf) 781868601344 OpTree.leaf) 781868994566 (OpTree.node (OpTree.node OpTree.leaf 781952486150 OpTree.leaf) 781952879360 OpTree.leaf)) 784636838150 (OpTree.node (OpTree.node (OpTree.node OpTree.leaf 784637231360 OpTree.leaf) 1099512680448 OpTree.leaf) 1099513073670 (OpTree.node (OpTree.node OpTree.leaf 1099523207168 OpTree.leaf) 1099523600390 OpTree.leaf))) 1099780063254 (OpTree.node (OpTree.node (OpTree.node (OpTree.node OpTree.leaf 1099780456464 OpTree.leaf) 1102464417974 OpTree.leaf) 1102464811184 (OpTree.node (OpTree.node OpTree.leaf 1125282484230 OpTree.leaf) 1125282877440 OpTree.leaf)) 1125293010950 (OpTree.node (OpTree.node (OpTree.node OpTree.leaf 1125293404160 OpTree.leaf) 1125549867024 OpTree.leaf) 1125550260246 (OpTree.node (OpTree.node OpTree.leaf 1128234221744 OpTree.leaf) 1128234614966 OpTree.leaf))))) 12094628999168 (OpTree.node (OpTree.node (OpTree.node (OpTree.node (OpTree.node (OpTree.node OpTree.leaf 12094629392390 OpTree.leaf) 12094639443968 OpTree.leaf) 12094639837190 (OpTree.node (OpTree.node OpTree.leaf 12094896341174 OpTree.leaf) 12094896734384 OpTree.leaf)) 12097580695574 (OpTree.node (OpTree.node (OpTree.node OpTree.leaf 12097581088784 OpTree.leaf) 12120398802950 OpTree.leaf) 12120399196160 (OpTree.node (OpTree.node OpTree.leaf 12120409247750 OpTree.leaf) 12120409640960 OpTree.leaf))) 12120666144944 (OpTree.node (OpTree.node (OpTree.node (OpTree.node OpTree.leaf 12120666538166 OpTree.leaf) 12123350499344 OpTree.leaf) 12123350892566 (OpTree.node (OpTree.node OpTree.leaf 17592187093254 OpTree.leaf) 17592187486464 OpTree.leaf)) 17592197581574 (OpTree.node (OpTree.node (OpTree.node OpTree.leaf 17592197974784 OpTree.leaf) 17592202821648 OpTree.leaf) 17592203214870 (OpTree.node (OpTree.node OpTree.leaf 17592370593968 OpTree.leaf) 17592370987190 OpTree.leaf)))) 17617956897024 (OpTree.node (OpTree.node (OpTree.node (OpTree.node (OpTree.node OpTree.leaf 17617957290246 OpTree.leaf) 17617967385344 OpTree.leaf) 17617967778566 (OpTree.node (OpTree.node OpTree.leaf 17617972625430 OpTree.leaf) 17617973018640 OpTree.leaf)) 17618140397750 (OpTree.node (OpTree.node (OpTree.node OpTree.leaf 17618140790960 OpTree.leaf) 193514047539974 OpTree.leaf) 193514047933184 (OpTree.node (OpTree.node OpTree.leaf 193514058023174 OpTree.leaf) 193514058416384 OpTree.leaf))) 193514063265968 (OpTree.node (OpTree.node (OpTree.node (OpTree.node OpTree.leaf 193514063659190 OpTree.leaf) 193514231037968 OpTree.leaf) 193514231431190 (OpTree.node (OpTree.node OpTree.leaf 193539817343744 OpTree.leaf) 193539817736966 OpTree.leaf)) 193539827826944 (OpTree.node (OpTree.node (OpTree.node OpTree.leaf 193539828220166 OpTree.leaf) 193539833069750 OpTree.leaf) 193539833462960 (OpTree.node (OpTree.node OpTree.leaf 193540000841750 OpTree.leaf) 193540001234960 OpTree.leaf))))))
def ops220 : List Nat := [1115349909683, 193514231431184, 12133551636659, 17592370593974, 12110466187289, 193514063659190, 1138435358745, 68987912448, 17605083073283, 758867427584, 193552702835459, 71672269574, 193526943514889, 756183075590, 17630842388745, 1099512680448, 1099523207174, 768984289289, 12094629392390, 81621356547, 12120409247750, 768816164873, 107558973449, 17617973018646, 1141119320249, 193540000841750, 12107781439673, 17618140790960, 12136235597843, 193539833069744, 1112665161747, 94758109446, 17630852483849, 784636838150, 193526932638473, 97442466560, 193552712925443, 781952486144, 17605072191747, 1125282877446, 1125293404160, 794753699843, 12120398802944, 107391553545, 12094639837184, 794586361859, 81789562883]
def tree220 : PdbModel.OpTree := (OpTree.node (OpTree.node (OpTree.node (OpTree.node (OpTree.node (OpTree.node OpTree.leaf 68987912448 OpTree.leaf) 71672269574 (OpTree.node OpTree.leaf 81621356547 OpTree.leaf)) 81789562883 (OpTree.node (OpTree.node OpTree.leaf 94758109446 OpTree.leaf) 97442466560 OpTree.leaf)) 107391553545 (OpTree.node (OpTree.node (OpTree.node OpTree.leaf 107558973449 OpTree.leaf) 756183075590 OpTree.leaf) 758867427584 (OpTree.node (OpTree.node OpTree.leaf 768816164873 OpTree.leaf) 768984289289 OpTree.leaf))) 781952486144 (OpTree.node (OpTree.node (OpTree.node (OpTree.node OpTree.leaf 784636838150 OpTree.leaf) 794586361859 OpTree.leaf) 794753699843 (OpTree.node (OpTree.node OpTree.leaf 1099512680448 OpTree.leaf) 1099523207174 OpTree.leaf)) 1112665161747 (OpTree.node (OpTree.node (OpTree.node OpTree.leaf 1115349909683 OpTree.leaf) 1125282877446 OpTree.leaf) 1125293404160 (OpTree.node (OpTree.node OpTree.leaf 1138435358745 OpTree.leaf) 1141119320249 OpTree.leaf)))) 12094629392390 (OpTree.node (OpTree.node (OpTree.node (OpTree.node (OpTree.node OpTree.leaf 12094639837184 OpTree.leaf) 12107781439673 OpTree.leaf) 12110466187289 (OpTree.node (OpTree.node OpTree.leaf 12120398802944 OpTree.leaf) 12120409247750 OpTree.leaf)) 12133551636659 (OpTree.node (OpTree.node (OpTree.node OpTree.leaf 12136235597843 OpTree.leaf) 17592202821648 OpTree.leaf) 17592370593974 (OpTree.node (OpTree.node OpTree.leaf 17605072191747 OpTree.leaf) 17605083073283 OpTree.leaf))) 17617973018646 (OpTree.node (OpTree.node (OpTree.node (OpTree.node OpTree.leaf 17618140790960 OpTree.leaf) 17630842388745 OpTree.leaf) 17630852483849 (OpTree.node (OpTree.node OpTree.leaf 193514063659190 OpTree.leaf) 193514231431184 OpTree.leaf)) 193526932638473 (OpTree.node (OpTree.node (OpTree.node OpTree.leaf 193526943514889 OpTree.leaf) 193539833069744 OpTree.leaf) 193540000841750 (OpTree.node (OpTree.node OpTree.leaf 193552702835459 OpTree.leaf) 193552712925443 OpTree.leaf)))))
def ops221 : List Nat := [12094896341008, 193514231037968, 1102464417808, 17592370593968, 1099780063408, 193514063265968, 12097580695728, 68987912448, 193514047537408, 758867034368, 17592197579008, 71672269568, 17592187095808, 756182682368, 193514058025728, 1099512680448, 1099523207168, 68736299008, 12094628999168, 756098838528, 12094639443968, 68904030208, 755931025408, 193514231038128, 1102464417968, 17592202821808, 12094896341168, 193514063265808, 12097580695568, 17592370593808, 1099780063248, 758867036928, 17592197581568, 68987915008, 193514047539968, 756182679808, 193514058023168, 71672267008, 17592187093248, 12094639484928, 12094628958208, 756098797568, 1099523166208, 68736258048, 1099512721408, 755931066368, 68904071168]
def tree221 : PdbModel.OpTree := (OpTree.node (OpTree.node (OpTree.node (OpTree.node (OpTree.node (OpTree.node OpTree.leaf 68736258048 OpTree.leaf) 68736299008 (OpTree.node OpTree.leaf 68904030208 OpTree.leaf)) 68904071168 (OpTree.node (OpTree.node OpTree.leaf 68987912448 OpTree.leaf) 68987915008 OpTree.leaf)) 71672267008 (OpTree.node (OpTree.node (OpTree.node OpTree.leaf 71672269568 OpTree.leaf) 755931025408 OpTree.leaf) 755931066368 (OpTree.node (OpTree.node OpTree.leaf 756098797568 OpTree.leaf) 756098838528 OpTree.leaf))) 756182679808 (OpTree.node (OpTree.node (OpTree.node (OpTree.node OpTree.leaf 756182682368 OpTree.leaf) 758867034368 OpTree.leaf) 758867036928 (OpTree.node (OpTree.node OpTree.leaf 1099512680448 OpTree.leaf) 1099512721408 OpTree.leaf)) 1099523166208 (OpTree.node (OpTree.node (OpTree.node OpTree.leaf 1099523207168 OpTree.leaf) 1099780063248 OpTree.leaf) 1099780063408 (OpTree.node (OpTree.node OpTree.leaf 1102464417808 OpTree.leaf) 1102464417968 OpTree.leaf)))) 12094628958208 (OpTree.node (OpTree.node (OpTree.node (OpTree.node (OpTree.node OpTree.leaf 12094628999168 OpTree.leaf) 12094639443968 OpTree.leaf) 12094639484928 (OpTree.node (OpTree.node OpTree.leaf 12094896341008 OpTree.leaf) 12094896341168 OpTree.leaf)) 12097580695568 (OpTree.node (OpTree.node (OpTree.node OpTree.leaf 12097580695728 OpTree.leaf) 17592187093248 OpTree.leaf) 17592187095808 (OpTree.node (OpTree.node OpTree.leaf 17592197579008 OpTree.leaf) 17592197581568 OpTree.leaf))) 17592202821648 (OpTree.node (OpTree.node (OpTree.node (OpTree.node OpTree.leaf 17592202821808 OpTree.leaf) 17592370593808 OpTree.leaf) 17592370593968 (OpTree.node (OpTree.node OpTree.leaf 193514047537408 OpTree.leaf) 193514047539968 OpTree.leaf)) 193514058023168 (OpTree.node (OpTree.node (OpTree.node OpTree.leaf 193514058025728 OpTree.leaf) 193514063265808 OpTree.leaf) 193514063265968 (OpTree.node (OpTree.node OpTree.leaf 193514231037968 OpTree.leaf) 193514231038128 OpTree.leaf)))))
def ops222 : List Nat := [12120666144784, 193540001234960, 1102464811024, 17592370987190, 1099780063414, 193539833069750, 12123350892726, 68987912448, 193539817341184, 784637231360, 17592197972224, 71672662790, 17592187095814, 781952486150, 193539828222726, 1099512680448, 1099523600390, 68736299014, 12120398802950, 781869035526, 12120409640960, 68904423424, 781700829184, 193514231038128, 1128234221744, 17617973018800, 12094896734384, 193514063659030, 12097580695574, 17618140397590, 1125550260246, 758867036928, 17617967385344, 94758112000, 193514047933184, 756183073030, 193514058023174, 97442070790, 17617957290246, 12094639484928, 12094629351430, 756098797574, 1125292969990, 94506455046, 1125282918400, 755931459584, 94673874944]
def tree222 : PdbModel.OpTree := (OpTree.node (OpTree.node (OpTree.node (OpTree.node (OpTree.node (OpTree.node OpTree.leaf 68736299014 OpTree.leaf) 68904423424 (OpTree.node OpTree.leaf 68987912448 OpTree.leaf)) 71672662790 (OpTree.node (OpTree.node OpTree.leaf 94506455046 OpTree.leaf) 94673874944 OpTree.leaf)) 94758112000 (OpTree.node (OpTree.node (OpTree.node OpTree.leaf 97442070790 OpTree.leaf) 755931459584 OpTree.leaf) 756098797574 (OpTree.node (OpTree.node OpTree.leaf 756183073030 OpTree.leaf) 758867036928 OpTree.leaf))) 781700829184 (OpTree.node (OpTree.node (OpTree.node (OpTree.node OpTree.leaf 781869035526 OpTree.leaf) 781952486150 OpTree.leaf) 784637231360 (OpTree.node (OpTree.node OpTree.leaf 1099512680448 OpTree.leaf) 1099523600390 OpTree.leaf)) 1099780063414 (OpTree.node (OpTree.node (OpTree.node OpTree.leaf 1102464811024 OpTree.leaf) 1125282918400 OpTree.leaf) 1125292969990 (OpTree.node (OpTree.node OpTree.leaf 1125550260246 OpTree.leaf) 1128234221744 OpTree.leaf)))) 12094629351430 (OpTree.node (OpTree.node (OpTree.node (OpTree.node (OpTree.node OpTree.leaf 12094639484928 OpTree.leaf) 12094896734384 OpTree.leaf) 12097580695574 (OpTree.node (OpTree.node OpTree.leaf 12120398802950 OpTree.leaf) 12120409640960 OpTree.leaf)) 12120666144784 (OpTree.node (OpTree.node (OpTree.node OpTree.leaf 12123350892726 OpTree.leaf) 17592187095814 OpTree.leaf) 17592197972224 (OpTree.node (OpTree.node OpTree.leaf 17592202821648 OpTree.leaf) 17592370987190 OpTree.leaf))) 17617957290246 (OpTree.node (OpTree.node (OpTree.node (OpTree.node OpTree.leaf 17617967385344 OpTree.leaf) 17617973018800 OpTree.leaf) 17618140397590 (OpTree.node (OpTree.node OpTree.leaf 193514047933184 OpTree.leaf) 193514058023174 OpTree.leaf)) 193514063659030 (OpTree.node (OpTree.node (OpTree.node OpTree.leaf 193514231038128 OpTree.leaf) 193539817341184 OpTree.leaf) 193539828222726 (OpTree.node (OpTree.node OpTree.leaf 193539833069750 OpTree.leaf) 193540001234960 OpTree.leaf)))))
def ops223 : List Nat := [12120666538006, 193514231037968, 1128234614806, 17592370593968, 1125550260406, 193514063265968, 12123350892726, 68987912448, 193539817734406, 758867034368, 17617967776006, 71672269568, 17617957292806, 756182682368, 193539828222726, 1099512680448, 1099523207168, 94506496006, 12094628999168, 781869035526, 12094639443968, 94674227206, 781701222406, 193514231038128, 1128234614966, 17592202821808, 12120666538166, 193514063265808, 12123350892566, 17592370593808, 1125550260246, 758867036928, 17617967778566, 68987915008, 193539817736966, 756182679808, 193539828220166, 71672267008, 17617957290246, 12094639484928, 12094628958208, 781868994566, 1099523166208, 94506455046, 1099512721408, 781701263366, 94674268166]
def tree223 : PdbModel.OpTree := (OpTree.node (OpTree.node (OpTree.node (OpTree.node (OpTree.node (OpTree.node OpTree.leaf 68987912448 OpTree.leaf) 68987915008 (OpTree.node OpTree.leaf 71672267008 OpTree.leaf)) 71672269568 (OpTree.node (OpTree.node OpTree.leaf 94506455046 OpTree.leaf) 94506496006 OpTree.leaf)) 94674227206 (OpTree.node (OpTree.node (OpTree.node OpTree.leaf 94674268166 OpTree.leaf) 756182679808 OpTree.leaf) 756182682368 (OpTree.node (OpTree.node OpTree.leaf 758867034368 OpTree.leaf) 758867036928 OpTree.leaf))) 781701222406 (OpTree.node (OpTree.node (OpTree.node (OpTree.node OpTree.leaf 781701263366 OpTree.leaf) 781868994566 OpTree.leaf) 781869035526 (OpTree.node (OpTree.node OpTree.leaf 1099512680448 OpTree.leaf) 1099512721408 OpTree.leaf)) 1099523166208 (OpTree.node (OpTree.node (OpTree.node OpTree.leaf 1099523207168 OpTree.leaf) 1125550260246 OpTree.leaf) 1125550260406 (OpTree.node (OpTree.node OpTree.leaf 1128234614806 OpTree.leaf) 1128234614966 OpTree.leaf)))) 12094628958208 (OpTree.node (OpTree.node (OpTree.node (OpTree.node (OpTree.node OpTree.leaf 12094628999168 OpTree.leaf) 12094639443968 OpTree.leaf) 12094639484928 (OpTree.node (OpTree.node OpTree.leaf 12120666538006 OpTree.leaf) 12120666538166 OpTree.leaf)) 12123350892566 (OpTree.node (OpTree.node (OpTree.node OpTree.leaf 12123350892726 OpTree.leaf) 17592202821648 OpTree.leaf) 17592202821808 (OpTree.node (OpTree.node OpTree.leaf 17592370593808 OpTree.leaf) 17592370593968 OpTree.leaf))) 17617957290246 (OpTree.node (OpTree.node (OpTree.node (OpTree.node OpTree.leaf 17617957292806 OpTree.leaf) 17617967776006 OpTree.leaf) 17617967778566 (OpTree.node (OpTree.node OpTree.leaf 193514063265808 OpTree.leaf) 193514063265968 OpTree.leaf)) 193514231037968 (OpTree.node (OpTree.node (OpTree.node OpTree.leaf 193514231038128 OpTree.leaf) 193539817734406 OpTree.leaf) 193539817736966 (OpTree.node (OpTree.node OpTree.leaf 193539828220166 OpTree.leaf) 193539828222726 OpTree.leaf)))))
def ops224 : List Nat := [12094896734230, 193540001234960, 1128234221590, 17592370987190, 1125550260400, 193539833069750, 12097580695728, 68987912448, 193514047930630, 784637231360, 17617967382790, 71672662790, 17617957292800, 781952486150, 193514058025728, 1099512680448, 1099523600390, 94506496000, 12120398802950, 756098838528, 12120409640960, 94673833990, 755931418630, 193514231038128, 1102464811190, 17617973018800, 12120666144950, 193514063659030, 12123350892560, 17618140397590, 1099780063248, 758867036928, 17592197974790, 94758112000, 193539817343750, 756183073030, 193539828220160, 97442070790, 17592187093248, 12094639484928, 12094629351430, 781868994560, 1125292969990, 68736258048, 1125282918400, 781700870150, 68904464390]
def tree224 : PdbModel.OpTree := (OpTree.node (OpTree.node (OpTree.node (OpTree.node (OpTree.node (OpTree.node OpTree.leaf 68736258048 OpTree.leaf) 68904464390 (OpTree.node OpTree.leaf 68987912448 OpTree.leaf)) 71672662790 (OpTree.node (OpTree.node OpTree.leaf 94506496000 OpTree.leaf) 94673833990 OpTree.leaf)) 94758112000 (OpTree.node (OpTree.node (OpTree.node OpTree.leaf 97442070790 OpTree.leaf) 755931418630 OpTree.leaf) 756098838528 (OpTree.node (OpTree.node OpTree.leaf 756183073030 OpTree.leaf) 758867036928 OpTree.leaf))) 781700870150 (OpTree.node (OpTree.node (OpTree.node (OpTree.node OpTree.leaf 781868994560 OpTree.leaf) 781952486150 OpTree.leaf) 784637231360 (OpTree.node (OpTree.node OpTree.leaf 1099512680448 OpTree.leaf) 1099523600390 OpTree.leaf)) 1099780063248 (OpTree.node (OpTree.node (OpTree.node OpTree.leaf 1102464811190 OpTree.leaf) 1125282918400 OpTree.leaf) 1125292969990 (OpTree.node (OpTree.node OpTree.leaf 1125550260400 OpTree.leaf) 1128234221590 OpTree.leaf)))) 12094629351430 (OpTree.node (OpTree.node (OpTree.node (OpTree.node (OpTree.node OpTree.leaf 12094639484928 OpTree.leaf) 12094896734230 OpTree.leaf) 12097580695728 (OpTree.node (OpTree.node OpTree.leaf 12120398802950 OpTree.leaf) 12120409640960 OpTree.leaf)) 12120666144950 (OpTree.node (OpTree.node (OpTree.node OpTree.leaf 12123350892560 OpTree.leaf) 17592187093248 OpTree.leaf) 17592197974790 (OpTree.node (OpTree.node OpTree.leaf 17592202821648 OpTree.leaf) 17592370987190 OpTree.leaf))) 17617957292800 (OpTree.node (OpTree.node (OpTree.node (OpTree.node OpTree.leaf 17617967382790 OpTree.leaf) 17617973018800 OpTree.leaf) 17618140397590 (OpTree.node (OpTree.node OpTree.leaf 193514047930630 OpTree.leaf) 193514058025728 OpTree.leaf)) 193514063659030 (OpTree.node (OpTree.node (OpTree.node OpTree.leaf 193514231038128 OpTree.leaf) 193539817343750 OpTree.leaf) 193539828220160 (OpTree.node (OpTree.node OpTree.leaf 193539833069750 OpTree.leaf) 193540001234960 OpTree.leaf)))))
def ops225 : List Nat := [12094896341008, 193514231037968, 1102464417808, 17592370593968, 1099780063408, 193514063265968, 12097580695728, 68987912448, 193514047537408, 758867034368, 17592197579008, 71672269568, 17592187095808, 756182682368, 193514058025728, 1099512680448, 1099523207168, 68736299008, 12094628999168, 756098838528, 12094639443968, 68904030208, 755931025408, 193514231038128, 1102464417968, 17592202821808, 12094896341168, 193514063265808, 12097580695568, 17592370593808, 1099780063248, 758867036928, 17592197581568, 68987915008, 193514047539968, 756182679808, 193514058023168, 71672267008, 17592187093248, 12094639484928, 12094628958208, 756098797568, 1099523166208, 68736258048, 1099512721408, 755931066368, 68904071168, 17592203214870, 12094896734230, 193514231431190, 1102464811030, 17592370987190, 1099780456630, 193514063659190, 12097581088950, 68988305670, 193514047930630, 758867427590, 17592197972230, 71672662790, 17592187489030, 756183075590, 193514058418950, 1099513073670, 1099523600390, 68736692230, 12094629392390, 756099231750, 12094639837190, 68904423430, 755931418630, 193514231431350, 1102464811190, 17592203215030, 12094896734390, 193514063659030, 12097581088790, 17592370987030, 1099780456470, 758867430150, 17592197974790, 68988308230, 193514047933190, 756183073030, 193514058416390, 71672660230, 17592187486470, 12094639878150, 12094629351430, 756099190790, 1099523559430, 68736651270, 1099513114630, 755931459590, 68904464390, 17617972625430, 12120666144790, 193540000841750, 1128234221590, 17618140397750, 1125549867190, 193539833069750, 12123350499510, 94757716230, 193539817341190, 784636838150, 17617967382790, 97442073350, 17617956899590, 781952486150, 193539827829510, 1125282484230, 1125293010950, 94506102790, 12120398802950, 781868642310, 12120409247750, 94673833990, 781700829190, 193540000841910, 1128234221750, 17617972625590, 12120666144950, 193539833069590, 12123350499350, 17618140397590, 1125549867030, 784636840710, 17617967385350, 94757718790, 193539817343750, 781952483590, 193539827826950, 97442070790, 17617956897030, 12120409288710, 12120398761990, 781868601350, 1125292969990, 94506061830, 1125282525190, 781700870150, 94673874950, 17617973018640, 12120666538000, 193540001234960, 1128234614800, 17618140790960, 1125550260400, 193539833462960, 12123350892720, 94758109440, 193539817734400, 784637231360, 17617967776000, 97442466560, 17617957292800, 781952879360, 193539828222720, 1125282877440, 1125293404160, 94506496000, 12120399196160, 781869035520, 12120409640960, 94674227200, 781701222400, 193540001235120, 1128234614960, 17617973018800, 12120666538160, 193539833462800, 12123350892560, 17618140790800, 1125550260240, 784637233920, 17617967778560, 94758112000, 193539817736960, 781952876800, 193539828220160, 97442464000, 17617957290240, 12120409681920, 12120399155200, 781868994560, 1125293363200, 94506455040, 1125282918400, 781701263360, 94674268160]
def tree225 : PdbModel.OpTree := (OpTree.node (OpTree.node (OpTree.node (OpTree.node (OpTree.node (OpTree.node (OpTree.node (OpTree.node OpTree.leaf 68736258048 OpTree.leaf) 68736299008 (OpTree.node OpTree.leaf 68736651270 OpTree.leaf)) 68736692230 (OpTree.node (OpTree.node OpTree.leaf 68904030208 OpTree.leaf) 68904071168 OpTree.leaf)) 68904423430 (OpTree.node (OpTree.node (OpTree.node OpTree.leaf 68904464390 OpTree.leaf) 68987912448 OpTree.leaf) 68987915008 (OpTree.node (OpTree.node OpTree.leaf 68988305670 OpTree.leaf) 68988308230 OpTree.leaf))) 71672267008 (OpTree.node (OpTree.node (OpTree.node (OpTree.node OpTree.leaf 71672269568 OpTree.leaf) 71672660230 OpTree.leaf) 71672662790 (OpTree.node (OpTree.node OpTree.leaf 94506061830 OpTree.leaf) 94506102790 OpTree.leaf)) 94506455040 (OpTree.node (OpTree.node (OpTree.node OpTree.leaf 94506496000 OpTree.leaf) 94673833990 OpTree.leaf) 94673874950 (OpTree.node (OpTree.node OpTree.leaf 94674227200 OpTree.leaf) 94674268160 OpTree.leaf)))) 94757716230 (OpTree.node (OpTree.node (OpTree.node (OpTree.node (OpTree.node OpTree.leaf 94757718790 OpTree.leaf) 94758109440 OpTree.leaf) 94758112000 (OpTree.node (OpTree.node OpTree.leaf 97442070790 OpTree.leaf) 97442073350 OpTree.leaf)) 97442464000 (OpTree.node (OpTree.node (OpTree.node OpTree.leaf 97442466560 OpTree.leaf) 755931025408 OpTree.leaf) 755931066368 (OpTree.node (OpTree.node OpTree.leaf 755931418630 OpTree.leaf) 755931459590 OpTree.leaf))) 756098797568 (OpTree.node (OpTree.node (OpTree.node (OpTree.node OpTree.leaf 756098838528 OpTree.leaf) 756099190790 OpTree.leaf) 756099231750 (OpTree.node (OpTree.node OpTree.leaf 756182679808 OpTree.leaf) 756182682368 OpTree.leaf)) 756183073030 (OpTree.node (OpTree.node (OpTree.node OpTree.leaf 756183075590 OpTree.leaf) 758867034368 OpTree.leaf) 758867036928 (OpTree.node (OpTree.node OpTree.leaf 758867427590 OpTree.leaf) 758867430150 OpTree.leaf))))) 781700829190 (OpTree.node (OpTree.node (OpTree.node (OpTree.node (OpTree.node (OpTree.node OpTree.leaf 781700870150 OpTree.leaf) 781701222400 OpTree.leaf) 781701263360 (OpTree.node (OpTree.node OpTree.leaf 781868601350 OpTree.leaf) 781868642310 OpTree.leaf)) 781868994560 (OpTree.node (OpTree.node (OpTree.node OpTree.leaf 781869035520 OpTree.leaf) 781952483590 OpTree.leaf) 781952486150 (OpTree.node (OpTree.node OpTree.leaf 781952876800 OpTree.leaf) 781952879360 OpTree.leaf))) 784636838150 (OpTree.node (OpTree.node (OpTree.node (OpTree.node OpTree.leaf 784636840710 OpTree.leaf) 784637231360 OpTree.leaf) 784637233920 (OpTree.node (OpTree.node OpTree.leaf 1099512680448 OpTree.leaf) 1099512721408 OpTree.leaf)) 1099513073670 (OpTree.node (OpTree.node (OpTree.node OpTree.leaf 1099513114630 OpTree.leaf) 1099523166208 OpTree.leaf) 1099523207168 (OpTree.node (OpTree.node OpTree.leaf 1099523559430 OpTree.leaf) 1099523600390 OpTree.leaf)))) 1099780063248 (OpTree.node (OpTree.node (OpTree.node (OpTree.node (OpTree.node OpTree.leaf 1099780063408 OpTree.leaf) 1099780456470 OpTree.leaf) 1099780456630 (OpTree.node (OpTree.node OpTree.leaf 1102464417808 OpTree.leaf) 1102464417968 OpTree.leaf)) 1102464811030 (OpTree.node (OpTree.node (OpTree.node OpTree.leaf 1102464811190 OpTree.leaf) 1125282484230 OpTree.leaf) 1125282525190 (OpTree.node (OpTree.node OpTree.leaf 1125282877440 OpTree.leaf) 1125282918400 OpTree.leaf))) 1125292969990 (OpTree.node (OpTree.node (OpTree.node (OpTree.node OpTree.leaf 1125293010950 OpTree.leaf) 1125293363200 OpTree.leaf) 1125293404160 (OpTree.node (OpTree.node OpTree.leaf 1125549867030 OpTree.leaf) 1125549867190 OpTree.leaf)) 1125550260240 (OpTree.node (OpTree.node (OpTree.node OpTree.leaf 1125550260400 OpTree.leaf) 1128234221590 OpTree.leaf) 1128234221750 (OpTree.node (OpTree.node OpTree.leaf 1128234614800 OpTree.leaf) 1128234614960 OpTree.leaf)))))) 12094628958208 (OpTree.node (OpTree.node (OpTree.node (OpTree.node (OpTree.node (OpTree.node (OpTree.node OpTree.leaf 12094628999168 OpTree.leaf) 12094629351430 OpTree.leaf) 12094629392390 (OpTree.node (OpTree.node OpTree.leaf 12094639443968 OpTree.leaf) 12094639484928 OpTree.leaf)) 12094639837190 (OpTree.node (OpTree.node (OpTree.node OpTree.leaf 12094639878150 OpTree.leaf) 12094896341008 OpTree.leaf) 12094896341168 (OpTree.node (OpTree.node OpTree.leaf 12094896734230 OpTree.leaf) 12094896734390 OpTree.leaf))) 12097580695568 (OpTree.node (OpTree.node (OpTree.node (OpTree.node OpTree.leaf 12097580695728 OpTree.leaf) 12097581088790 OpTree.leaf) 12097581088950 (OpTree.node (OpTree.node OpTree.leaf 12120398761990 OpTree.leaf) 12120398802950 OpTree.leaf)) 12120399155200 (OpTree.node (OpTree.node (OpTree.node OpTree.leaf 12120399196160 OpTree.leaf) 12120409247750 OpTree.leaf) 12120409288710 (OpTree.node (OpTree.node OpTree.leaf 12120409640960 OpTree.leaf) 12120409681920 OpTree.leaf)))) 12120666144790 (OpTree.node (OpTree.node (OpTree.node (OpTree.node (OpTree.node OpTree.leaf 12120666144950 OpTree.leaf) 12120666538000 OpTree.leaf) 12120666538160 (OpTree.node (OpTree.node OpTree.leaf 12123350499350 OpTree.leaf) 12123350499510 OpTree.leaf)) 12123350892560 (OpTree.node (OpTree.node (OpTree.node OpTree.leaf 12123350892720 OpTree.leaf) 17592187093248 OpTree.leaf) 17592187095808 (OpTree.node (OpTree.node OpTree.leaf 17592187486470 OpTree.leaf) 17592187489030 OpTree.leaf))) 17592197579008 (OpTree.node (OpTree.node (OpTree.node (OpTree.node OpTree.leaf 17592197581568 OpTree.leaf) 17592197972230 OpTree.leaf) 17592197974790 (OpTree.node (OpTree.node OpTree.leaf 17592202821648 OpTree.leaf) 17592202821808 OpTree.leaf)) 17592203214870 (OpTree.node (OpTree.node (OpTree.node OpTree.leaf 17592203215030 OpTree.leaf) 17592370593808 OpTree.leaf) 17592370593968 (OpTree.node (OpTree.node OpTree.leaf 17592370987030 OpTree.leaf) 17592370987190 OpTree.leaf))))) 17617956897030 (OpTree.node (OpTree.node (OpTree.node (OpTree.node (OpTree.node (OpTree.node OpTree.leaf 17617956899590 OpTree.leaf) 17617957290240 OpTree.leaf) 17617957292800 (OpTree.node (OpTree.node OpTree.leaf 17617967382790 OpTree.leaf) 17617967385350 OpTree.leaf)) 17617967776000 (OpTree.node (OpTree.node (OpTree.node OpTree.leaf 17617967778560 OpTree.leaf) 17617972625430 OpTree.leaf) 17617972625590 (OpTree.node (OpTree.node OpTree.leaf 17617973018640 OpTree.leaf) 17617973018800 OpTree.leaf))) 17618140397590 (OpTree.node (OpTree.node (OpTree.node (OpTree.node OpTree.leaf 17618140397750 OpTree.leaf) 17618140790800 OpTree.leaf) 17618140790960 (OpTree.node (OpTree.node OpTree.leaf 193514047537408 OpTree.leaf) 193514047539968 OpTree.leaf)) 193514047930630 (OpTree.node (OpTree.node (OpTree.node OpTree.leaf 193514047933190 OpTree.leaf) 193514058023168 OpTree.leaf) 193514058025728 (OpTree.node (OpTree.node OpTree.leaf 193514058416390 OpTree.leaf) 193514058418950 OpTree.leaf)))) 193514063265808 (OpTree.node (OpTree.node (OpTree.node (OpTree.node (OpTree.node OpTree.leaf 193514063265968 OpTree.leaf) 193514063659030 OpTree.leaf) 193514063659190 (OpTree.node (OpTree.node OpTree.leaf 193514231037968 OpTree.leaf) 193514231038128 OpTree.leaf)) 193514231431190 (OpTree.node (OpTree.node (OpTree.node OpTree.leaf 193514231431350 OpTree.leaf) 193539817341190 OpTree.leaf) 193539817343750 (OpTree.node (OpTree.node OpTree.leaf 193539817734400 OpTree.leaf) 193539817736960 OpTree.leaf))) 193539827826950 (OpTree.node (OpTree.node (OpTree.node (OpTree.node OpTree.leaf 193539827829510 OpTree.leaf) 193539828220160 OpTree.leaf) 193539828222720 (OpTree.node (OpTree.node OpTree.leaf 193539833069590 OpTree.leaf) 193539833069750 OpTree.leaf)) 193539833462800 (OpTree.node (OpTree.node (OpTree.node OpTree.leaf 193539833462960 OpTree.leaf) 193540000841750 OpTree.leaf) 193540000841910 (OpTree.node (OpTree.node OpTree.leaf 193540001234960 OpTree.leaf) 193540001235120 OpTree.leaf)))))))
def ops226 : List Nat := [12120666144784, 193540001234960, 1102464811024, 17592370593968, 1125549867184, 193539833462960, 12097581088944, 68987912448, 193539817341184, 784637231360, 17592197972224, 71672269568, 17617956899584, 781952879360, 193514058418944, 1099512680448, 1099523600390, 68736299014, 12120398802950, 781868642304, 12094639443968, 68904030214, 781701222406, 193514231038128, 1128234221744, 17617973018800, 12094896734384, 193514063265808, 12123350499344, 17618140790800, 1099780456464, 758867036928, 17617967385344, 94758112000, 193514047933184, 756182679808, 193539827826944, 97442464000, 17592187486464, 12094639484928, 12094629351430, 756098797574, 1125292969990, 94506061824, 1099512721408, 755931066374, 94674268166, 17592203214870, 12120666538006, 193540000841750, 1102464417814, 17592370987190, 1125550260406, 193539833069750, 12097580695734, 68988305670, 193539817734406, 784636838150, 17592197579014, 71672662790, 17617957292806, 781952486150, 193514058025734, 1099513073670, 1099523207168, 68736692224, 12120399196160, 781869035526, 12094639837190, 68904423424, 781700829184, 193514231431350, 1128234614966, 17617972625590, 12094896341174, 193514063659030, 12123350892566, 17618140397590, 1099780063254, 758867430150, 17617967778566, 94757718790, 193514047539974, 756183073030, 193539828220166, 97442070790, 17592187093254, 12094639878150, 12094628958208, 756099190784, 1125293363200, 94506455046, 1099513114630, 755931459584, 94673874944, 17617972625430, 12094896341014, 193514231431190, 1128234614806, 17618140397750, 1099780063414, 193514063659190, 12123350892726, 94757716230, 193514047537414, 758867427590, 17617967776006, 97442073350, 17592187095814, 756183075590, 193539828222726, 1125282484230, 1125293404160, 94506102784, 12094628999168, 756098838534, 12120409247750, 94673833984, 755931418624, 193540000841910, 1102464417974, 17592203215030, 12120666538166, 193539833069590, 12097580695574, 17592370987030, 1125550260246, 784636840710, 17592197581574, 68988308230, 193539817736966, 781952483590, 193514058023174, 71672660230, 17617957290246, 12120409288710, 12120399155200, 781868601344, 1099523166208, 68736258054, 1125282525190, 781700870144, 68904464384, 17617973018640, 12094896734224, 193514231037968, 1128234221584, 17618140790960, 1099780456624, 193514063265968, 12123350499504, 94758109440, 193514047930624, 758867034368, 17617967382784, 97442466560, 17592187489024, 756182682368, 193539827829504, 1125282877440, 1125293010950, 94506496006, 12094629392390, 756099231744, 12120409640960, 94674227206, 755931025414, 193540001235120, 1102464811184, 17592202821808, 12120666144944, 193539833462800, 12097581088784, 17592370593808, 1125549867024, 784637233920, 17592197974784, 68987915008, 193539817343744, 781952876800, 193514058416384, 71672267008, 17617956897024, 12120409681920, 12120398761990, 781868994566, 1099523559430, 68736651264, 1125282918400, 781701263366, 68904071174]
def tree226 : PdbModel.OpTree := (OpTree.node (OpTree.node (OpTree.node (OpTree.node (OpTree.node (OpTree.node (OpTree.node (OpTree.node OpTree.leaf 68736258054 OpTree.leaf) 68736299014 (OpTree.node OpTree.leaf 68736651264 OpTree.leaf)) 68736692224 (OpTree.node (OpTree.node OpTree.leaf 68904030214 OpTree.leaf) 68904071174 OpTree.leaf)) 68904423424 (OpTree.node (OpTree.node (OpTree.node OpTree.leaf 68904464384 OpTree.leaf) 68987912448 OpTree.leaf) 68987915008 (OpTree.node (OpTree.node OpTree.leaf 68988305670 OpTree.leaf) 68988308230 OpTree.leaf))) 71672267008 (OpTree.node (OpTree.node (OpTree.node (OpTree.node OpTree.leaf 71672269568 OpTree.leaf) 71672660230 OpTree.leaf) 71672662790 (OpTree.node (OpTree.node OpTree.leaf 94506061824 OpTree.leaf) 94506102784 OpTree.leaf)) 94506455046 (OpTree.node (OpTree.node (OpTree.node OpTree.leaf 94506496006 OpTree.leaf) 94673833984 OpTree.leaf) 94673874944 (OpTree.node (OpTree.node OpTree.leaf 94674227206 OpTree.leaf) 94674268166 OpTree.leaf)))) 94757716230 (OpTree.node (OpTree.node (OpTree.node (OpTree.node (OpTree.node OpTree.leaf 94757718790 OpTree.leaf) 94758109440 OpTree.leaf) 94758112000 (OpTree.node (OpTree.node OpTree.leaf 97442070790 OpTree.leaf) 97442073350 OpTree.leaf)) 97442464000 (OpTree.node (OpTree.node (OpTree.node OpTree.leaf 97442466560 OpTree.leaf) 755931025414 OpTree.leaf) 755931066374 (OpTree.node (OpTree.node OpTree.leaf 755931418624 OpTree.leaf) 755931459584 OpTree.leaf))) 756098797574 (OpTree.node (OpTree.node (OpTree.node (OpTree.node OpTree.leaf 756098838534 OpTree.leaf) 756099190784 OpTree.leaf) 756099231744 (OpTree.node (OpTree.node OpTree.leaf 756182679808 OpTree.leaf) 756182682368 OpTree.leaf)) 756183073030 (OpTree.node (OpTree.node (OpTree.node OpTree.leaf 756183075590 OpTree.leaf) 758867034368 OpTree.leaf) 758867036928 (OpTree.node (OpTree.node OpTree.leaf 758867427590 OpTree.leaf) 758867430150 OpTree.leaf))))) 781700829184 (OpTree.node (OpTree.node (OpTree.node (OpTree.node (OpTree.node (OpTree.node OpTree.leaf 781700870144 OpTree.leaf) 781701222406 OpTree.leaf) 781701263366 (OpTree.node (OpTree.node OpTree.leaf 781868601344 OpTree.leaf) 781868642304 OpTree.leaf)) 781868994566 (OpTree.node (OpTree.node (OpTree.node OpTree.leaf 781869035526 OpTree.leaf) 781952483590 OpTree.leaf) 781952486150 (OpTree.node (OpTree.node OpTree.leaf 781952876800 OpTree.leaf) 781952879360 OpTree.leaf))) 784636838150 (OpTree.node (OpTree.node (OpTree.node (OpTree.node OpTree.leaf 784636840710 OpTree.leaf) 784637231360 OpTree.leaf) 784637233920 (OpTree.node (OpTree.node OpTree.leaf 1099512680448 OpTree.leaf) 1099512721408 OpTree.leaf)) 1099513073670 (OpTree.node (OpTree.node (OpTree.node OpTree.leaf 1099513114630 OpTree.leaf) 1099523166208 OpTree.leaf) 1099523207168 (OpTree.node (OpTree.node OpTree.leaf 1099523559430 OpTree.leaf) 1099523600390 OpTree.leaf)))) 1099780063254 (OpTree.node (OpTree.node (OpTree.node (OpTree.node (OpTree.node OpTree.leaf 1099780063414 OpTree.leaf) 1099780456464 OpTree.leaf) 1099780456624 (OpTree.node (OpTree.node OpTree.leaf 1102464417814 OpTree.leaf) 1102464417974 OpTree.leaf)) 1102464811024 (OpTree.node (OpTree.node (OpTree.node OpTree.leaf 1102464811184 OpTree.leaf) 1125282484230 OpTree.leaf) 1125282525190 (OpTree.node (OpTree.node OpTree.leaf 1125282877440 OpTree.leaf) 1125282918400 OpTree.leaf))) 1125292969990 (OpTree.node (OpTree.node (OpTree.node (OpTree.node OpTree.leaf 1125293010950 OpTree.leaf) 1125293363200 OpTree.leaf) 1125293404160 (OpTree.node (OpTree.node OpTree.leaf 1125549867024 OpTree.leaf) 1125549867184 OpTree.leaf)) 1125550260246 (OpTree.node (OpTree.node (OpTree.node OpTree.leaf 1125550260406 OpTree.leaf) 1128234221584 OpTree.leaf) 1128234221744 (OpTree.node (OpTree.node OpTree.leaf 1128234614806 OpTree.leaf) 1128234614966 OpTree.leaf)))))) 12094628958208 (OpTree.node (OpTree.node (OpTree.node (OpTree.node (OpTree.node (OpTree.node (OpTree.node OpTree.leaf 12094628999168 OpTree.leaf) 12094629351430 OpTree.leaf) 12094629392390 (OpTree.node (OpTree.node OpTree.leaf 12094639443968 OpTree.leaf) 12094639484928 OpTree.leaf)) 12094639837190 (OpTree.node (OpTree.node (OpTree.node OpTree.leaf 12094639878150 OpTree.leaf) 12094896341014 OpTree.leaf) 12094896341174 (OpTree.node (OpTree.node OpTree.leaf 12094896734224 OpTree.leaf) 12094896734384 OpTree.leaf))) 12097580695574 (OpTree.node (OpTree.node (OpTree.node (OpTree.node OpTree.leaf 12097580695734 OpTree.leaf) 12097581088784 OpTree.leaf) 12097581088944 (OpTree.node (OpTree.node OpTree.leaf 12120398761990 OpTree.leaf) 12120398802950 OpTree.leaf)) 12120399155200 (OpTree.node (OpTree.node (OpTree.node OpTree.leaf 12120399196160 OpTree.leaf) 12120409247750 OpTree.leaf) 12120409288710 (OpTree.node (OpTree.node OpTree.leaf 12120409640960 OpTree.leaf) 12120409681920 OpTree.leaf)))) 12120666144784 (OpTree.node (OpTree.node (OpTree.node (OpTree.node (OpTree.node OpTree.leaf 12120666144944 OpTree.leaf) 12120666538006 OpTree.leaf) 12120666538166 (OpTree.node (OpTree.node OpTree.leaf 12123350499344 OpTree.leaf) 12123350499504 OpTree.leaf)) 12123350892566 (OpTree.node (OpTree.node (OpTree.node OpTree.leaf 12123350892726 OpTree.leaf) 17592187093254 OpTree.leaf) 17592187095814 (OpTree.node (OpTree.node OpTree.leaf 17592187486464 OpTree.leaf) 17592187489024 OpTree.leaf))) 17592197579014 (OpTree.node (OpTree.node (OpTree.node (OpTree.node OpTree.leaf 17592197581574 OpTree.leaf) 17592197972224 OpTree.leaf) 17592197974784 (OpTree.node (OpTree.node OpTree.leaf 17592202821648 OpTree.leaf) 17592202821808 OpTree.leaf)) 17592203214870 (OpTree.node (OpTree.node (OpTree.node OpTree.leaf 17592203215030 OpTree.leaf) 17592370593808 OpTree.leaf) 17592370593968 (OpTree.node (OpTree.node OpTree.leaf 17592370987030 OpTree.leaf) 17592370987190 OpTree.leaf))))) 17617956897024 (OpTree.node (OpTree.node (OpTree.node (OpTree.node (OpTree.node (OpTree.node OpTree.leaf 17617956899584 OpTree.leaf) 17617957290246 OpTree.leaf) 17617957292806 (OpTree.node (OpTree.node OpTree.leaf 17617967382784 OpTree.leaf) 17617967385344 OpTree.leaf)) 17617967776006 (OpTree.node (OpTree.node (OpTree.node OpTree.leaf 17617967778566 OpTree.leaf) 17617972625430 OpTree.leaf) 17617972625590 (OpTree.node (OpTree.node OpTree.leaf 17617973018640 OpTree.leaf) 17617973018800 OpTree.leaf))) 17618140397590 (OpTree.node (OpTree.node (OpTree.node (OpTree.node OpTree.leaf 17618140397750 OpTree.leaf) 17618140790800 OpTree.leaf) 17618140790960 (OpTree.node (OpTree.node OpTree.leaf 193514047537414 OpTree.leaf) 193514047539974 OpTree.leaf)) 193514047930624 (OpTree.node (OpTree.node (OpTree.node OpTree.leaf 193514047933184 OpTree.leaf) 193514058023174 OpTree.leaf) 193514058025734 (OpTree.node (OpTree.node OpTree.leaf 193514058416384 OpTree.leaf) 193514058418944 OpTree.leaf)))) 193514063265808 (OpTree.node (OpTree.node (OpTree.node (OpTree.node (OpTree.node OpTree.leaf 193514063265968 OpTree.leaf) 193514063659030 OpTree.leaf) 193514063659190 (OpTree.node (OpTree.node OpTree.leaf 193514231037968 OpTree.leaf) 193514231038128 OpTree.leaf)) 193514231431190 (OpTree.node (OpTree.node (OpTree.node OpTree.leaf 193514231431350 OpTree.leaf) 193539817341184 OpTree.leaf) 193539817343744 (OpTree.node (OpTree.node OpTree.leaf 193539817734406 OpTree.leaf) 193539817736966 OpTree.leaf))) 193539827826944 (OpTree.node (OpTree.node (OpTree.node (OpTree.node OpTree.leaf 193539827829504 OpTree.leaf) 193539828220166 OpTree.leaf) 193539828222726 (OpTree.node (OpTree.node OpTree.leaf 193539833069590 OpTree.leaf) 193539833069750 OpTree.leaf)) 193539833462800 (OpTree.node (OpTree.node (OpTree.node OpTree.leaf 193539833462960 OpTree.leaf) 193540000841750 OpTree.leaf) 193540000841910 (OpTree.node (OpTree.node OpTree.leaf 193540001234960 OpTree.leaf) 193540001235120 OpTree.leaf)))))))
def ops227 : List Nat := [12094896537619, 193552885940246, 1141119123481, 17592370790579, 1138434965686, 193552717971641, 12097580695728, 68987912448, 193514047734019, 797521936646, 17630852284681, 71672466179, 17630841998086, 794837388041, 193514058025728, 1099512680448, 1125293600771, 81621790726, 12107514294281, 756099231750, 12107524542464, 81788932099, 781701025801, 193514231038128, 1102465007801, 17605088313526, 12107781243059, 193514063855641, 12110466187286, 17605255495699, 1099780063248, 758867036928, 17592198171401, 81873406726, 193526932441859, 756183269641, 193526943514886, 84557168899, 17592187093248, 12094639484928, 12120398958601, 794753699846, 1138178265091, 68736651270, 1138168016896, 794585772041, 94674464771, 17592203214870, 12094896930841, 193552886333456, 1141119516691, 17592371183801, 1138435358896, 193552718364851, 12097581088950, 68988305670, 193514048127241, 797522329856, 17630852677891, 71672859401, 17630842391296, 794837781251, 193514058418950, 1099513073670, 1125293207561, 81621397504, 12107513901059, 756098838528, 12107524935686, 81789325321, 781701419011, 193514231431350, 1102464614579, 17605087920304, 12107781636281, 193514063462419, 12110465794064, 17605255888921, 1099780456470, 758867430150, 17592197778179, 81873013504, 193526932835081, 756182876419, 193526943121664, 84557562121, 17592187486470, 12094639878150, 12120399351811, 794754093056, 1138177871881, 68736258048, 1138167623686, 794586165251, 94674071561, 17617972625430, 12120666341401, 193527116136464, 1115349319699, 17618140594361, 1112665161904, 193526948167859, 12123350499510, 94757716230, 193539817537801, 771752132864, 17605082480899, 97442269961, 17605072194304, 769067584259, 193539827829510, 1125282484230, 1099523797001, 107391594496, 12133284098051, 781869035520, 12133294346246, 107558735881, 755931222019, 193540000841910, 1128234811571, 17630858117296, 12133551046841, 193539833659411, 12136235991056, 17631025299481, 1125549867030, 784636840710, 17617967975171, 107643210496, 193552702245641, 781953073411, 193552713318656, 110326972681, 17617956897030, 12120409288710, 12094629154819, 768983896064, 1112408461321, 94506455040, 1112398213126, 768815968259, 68904661001, 17617973018640, 12120666734611, 193527116529686, 1115349712921, 17618140987571, 1112665555126, 193526948561081, 12123350892720, 94758109440, 193539817931011, 771752526086, 17605082874121, 97442663171, 17605072587526, 769067977481, 193539828222720, 1125282877440, 1099523403779, 107391201286, 12133283704841, 781868642310, 12133294739456, 107559129091, 755931615241, 193540001235120, 1128234418361, 17630857724086, 12133551440051, 193539833266201, 12136235597846, 17631025692691, 1125550260240, 784637233920, 17617967581961, 107642817286, 193552702638851, 781952680201, 193552712925446, 110327365891, 17617957290240, 12120409681920, 12094629548041, 768984289286, 1112408068099, 94506061830, 1112397819904, 768816361481, 68904267779]
def tree227 : PdbModel.OpTree := (OpTree.node (OpTree.node (OpTree.node (OpTree.node (OpTree.node (OpTree.node (OpTree.node (OpTree.node OpTree.leaf 68736258048 OpTree.leaf) 68736651270 (OpTree.node OpTree.leaf 68904267779 OpTree.leaf)) 68904661001 (OpTree.node (OpTree.node OpTree.leaf 68987912448 OpTree.leaf) 68988305670 OpTree.leaf)) 71672466179 (OpTree.node (OpTree.node (OpTree.node OpTree.leaf 71672859401 OpTree.leaf) 81621397504 OpTree.leaf) 81621790726 (OpTree.node (OpTree.node OpTree.leaf 81788932099 OpTree.leaf) 81789325321 OpTree.leaf))) 81873013504 (OpTree.node (OpTree.node (OpTree.node (OpTree.node OpTree.leaf 81873406726 OpTree.leaf) 84557168899 OpTree.leaf) 84557562121 (OpTree.node (OpTree.node OpTree.leaf 94506061830 OpTree.leaf) 94506455040 OpTree.leaf)) 94674071561 (OpTree.node (OpTree.node (OpTree.node OpTree.leaf 94674464771 OpTree.leaf) 94757716230 OpTree.leaf) 94758109440 (OpTree.node (OpTree.node OpTree.leaf 97442269961 OpTree.leaf) 97442663171 OpTree.leaf)))) 107391201286 (OpTree.node (OpTree.node (OpTree.node (OpTree.node (OpTree.node OpTree.leaf 107391594496 OpTree.leaf) 107558735881 OpTree.leaf) 107559129091 (OpTree.node (OpTree.node OpTree.leaf 107642817286 OpTree.leaf) 107643210496 OpTree.leaf)) 110326972681 (OpTree.node (OpTree.node (OpTree.node OpTree.leaf 110327365891 OpTree.leaf) 755931222019 OpTree.leaf) 755931615241 (OpTree.node (OpTree.node OpTree.leaf 756098838528 OpTree.leaf) 756099231750 OpTree.leaf))) 756182876419 (OpTree.node (OpTree.node (OpTree.node (OpTree.node OpTree.leaf 756183269641 OpTree.leaf) 758867036928 OpTree.leaf) 758867430150 (OpTree.node (OpTree.node OpTree.leaf 768815968259 OpTree.leaf) 768816361481 OpTree.leaf)) 768983896064 (OpTree.node (OpTree.node (OpTree.node OpTree.leaf 768984289286 OpTree.leaf) 769067584259 OpTree.leaf) 769067977481 (OpTree.node (OpTree.node OpTree.leaf 771752132864 OpTree.leaf) 771752526086 OpTree.leaf))))) 781701025801 (OpTree.node (OpTree.node (OpTree.node (OpTree.node (OpTree.node (OpTree.node OpTree.leaf 781701419011 OpTree.leaf) 781868642310 OpTree.leaf) 781869035520 (OpTree.node (OpTree.node OpTree.leaf 781952680201 OpTree.leaf) 781953073411 OpTree.leaf)) 784636840710 (OpTree.node (OpTree.node (OpTree.node OpTree.leaf 784637233920 OpTree.leaf) 794585772041 OpTree.leaf) 794586165251 (OpTree.node (OpTree.node OpTree.leaf 794753699846 OpTree.leaf) 794754093056 OpTree.leaf))) 794837388041 (OpTree.node (OpTree.node (OpTree.node (OpTree.node OpTree.leaf 794837781251 OpTree.leaf) 797521936646 OpTree.leaf) 797522329856 (OpTree.node (OpTree.node OpTree.leaf 1099512680448 OpTree.leaf) 1099513073670 OpTree.leaf)) 1099523403779 (OpTree.node (OpTree.node (OpTree.node OpTree.leaf 1099523797001 OpTree.leaf) 1099780063248 OpTree.leaf) 1099780456470 (OpTree.node (OpTree.node OpTree.leaf 1102464614579 OpTree.leaf) 1102465007801 OpTree.leaf)))) 1112397819904 (OpTree.node (OpTree.node (OpTree.node (OpTree.node (OpTree.node OpTree.leaf 1112398213126 OpTree.leaf) 1112408068099 OpTree.leaf) 1112408461321 (OpTree.node (OpTree.node OpTree.leaf 1112665161904 OpTree.leaf) 1112665555126 OpTree.leaf)) 1115349319699 (OpTree.node (OpTree.node (OpTree.node OpTree.leaf 1115349712921 OpTree.leaf) 1125282484230 OpTree.leaf) 1125282877440 (OpTree.node (OpTree.node OpTree.leaf 1125293207561 OpTree.leaf) 1125293600771 OpTree.leaf))) 1125549867030 (OpTree.node (OpTree.node (OpTree.node (OpTree.node OpTree.leaf 1125550260240 OpTree.leaf) 1128234418361 OpTree.leaf) 1128234811571 (OpTree.node (OpTree.node OpTree.leaf 1138167623686 OpTree.leaf) 1138168016896 OpTree.leaf)) 1138177871881 (OpTree.node (OpTree.node (OpTree.node OpTree.leaf 1138178265091 OpTree.leaf) 1138434965686 OpTree.leaf) 1138435358896 (OpTree.node (OpTree.node OpTree.leaf 1141119123481 OpTree.leaf) 1141119516691 OpTree.leaf)))))) 12094629154819 (OpTree.node (OpTree.node (OpTree.node (OpTree.node (OpTree.node (OpTree.node (OpTree.node OpTree.leaf 12094629548041 OpTree.leaf) 12094639484928 OpTree.leaf) 12094639878150 (OpTree.node (OpTree.node OpTree.leaf 12094896537619 OpTree.leaf) 12094896930841 OpTree.leaf)) 12097580695728 (OpTree.node (OpTree.node (OpTree.node OpTree.leaf 12097581088950 OpTree.leaf) 12107513901059 OpTree.leaf) 12107514294281 (OpTree.node (OpTree.node OpTree.leaf 12107524542464 OpTree.leaf) 12107524935686 OpTree.leaf))) 12107781243059 (OpTree.node (OpTree.node (OpTree.node (OpTree.node OpTree.leaf 12107781636281 OpTree.leaf) 12110465794064 OpTree.leaf) 12110466187286 (OpTree.node (OpTree.node OpTree.leaf 12120398958601 OpTree.leaf) 12120399351811 OpTree.leaf)) 12120409288710 (OpTree.node (OpTree.node (OpTree.node OpTree.leaf 12120409681920 OpTree.leaf) 12120666341401 OpTree.leaf) 12120666734611 (OpTree.node (OpTree.node OpTree.leaf 12123350499510 OpTree.leaf) 12123350892720 OpTree.leaf)))) 12133283704841 (OpTree.node (OpTree.node (OpTree.node (OpTree.node (OpTree.node OpTree.leaf 12133284098051 OpTree.leaf) 12133294346246 OpTree.leaf) 12133294739456 (OpTree.node (OpTree.node OpTree.leaf 12133551046841 OpTree.leaf) 12133551440051 OpTree.leaf)) 12136235597846 (OpTree.node (OpTree.node (OpTree.node OpTree.leaf 12136235991056 OpTree.leaf) 17592187093248 OpTree.leaf) 17592187486470 (OpTree.node (OpTree.node OpTree.leaf 17592197778179 OpTree.leaf) 17592198171401 OpTree.leaf))) 17592202821648 (OpTree.node (OpTree.node (OpTree.node (OpTree.node OpTree.leaf 17592203214870 OpTree.leaf) 17592370790579 OpTree.leaf) 17592371183801 (OpTree.node (OpTree.node OpTree.leaf 17605072194304 OpTree.leaf) 17605072587526 OpTree.leaf)) 17605082480899 (OpTree.node (OpTree.node (OpTree.node OpTree.leaf 17605082874121 OpTree.leaf) 17605087920304 OpTree.leaf) 17605088313526 (OpTree.node (OpTree.node OpTree.leaf 17605255495699 OpTree.leaf) 17605255888921 OpTree.leaf))))) 17617956897030 (OpTree.node (OpTree.node (OpTree.node (OpTree.node (OpTree.node (OpTree.node OpTree.leaf 17617957290240 OpTree.leaf) 17617967581961 OpTree.leaf) 17617967975171 (OpTree.node (OpTree.node OpTree.leaf 17617972625430 OpTree.leaf) 17617973018640 OpTree.leaf)) 17618140594361 (OpTree.node (OpTree.node (OpTree.node OpTree.leaf 17618140987571 OpTree.leaf) 17630841998086 OpTree.leaf) 17630842391296 (OpTree.node (OpTree.node OpTree.leaf 17630852284681 OpTree.leaf) 17630852677891 OpTree.leaf))) 17630857724086 (OpTree.node (OpTree.node (OpTree.node (OpTree.node OpTree.leaf 17630858117296 OpTree.leaf) 17631025299481 OpTree.leaf) 17631025692691 (OpTree.node (OpTree.node OpTree.leaf 193514047734019 OpTree.leaf) 193514048127241 OpTree.leaf)) 193514058025728 (OpTree.node (OpTree.node (OpTree.node OpTree.leaf 193514058418950 OpTree.leaf) 193514063462419 OpTree.leaf) 193514063855641 (OpTree.node (OpTree.node OpTree.leaf 193514231038128 OpTree.leaf) 193514231431350 OpTree.leaf)))) 193526932441859 (OpTree.node (OpTree.node (OpTree.node (OpTree.node (OpTree.node OpTree.leaf 193526932835081 OpTree.leaf) 193526943121664 OpTree.leaf) 193526943514886 (OpTree.node (OpTree.node OpTree.leaf 193526948167859 OpTree.leaf) 193526948561081 OpTree.leaf)) 193527116136464 (OpTree.node (OpTree.node (OpTree.node OpTree.leaf 193527116529686 OpTree.leaf) 193539817537801 OpTree.leaf) 193539817931011 (OpTree.node (OpTree.node OpTree.leaf 193539827829510 OpTree.leaf) 193539828222720 OpTree.leaf))) 193539833266201 (OpTree.node (OpTree.node (OpTree.node (OpTree.node OpTree.leaf 193539833659411 OpTree.leaf) 193540000841910 OpTree.leaf) 193540001235120 (OpTree.node (OpTree.node OpTree.leaf 193552702245641 OpTree.leaf) 193552702638851 OpTree.leaf)) 193552712925446 (OpTree.node (OpTree.node (OpTree.node OpTree.leaf 193552713318656 OpTree.leaf) 193552717971641 OpTree.leaf) 193552718364851 (OpTree.node (OpTree.node OpTree.leaf 193552885940246 OpTree.leaf) 193552886333456 OpTree.leaf)))))))
def ops228 : List Nat := [12120666341395, 193527116529686, 1141119516697, 17592370790579, 1112665161910, 193526948561081, 12097581088944, 68987912448, 193539817537795, 771752526086, 17630852677897, 71672466179, 17605072194310, 769067977481, 193514058418944, 1099512680448, 1125293207561, 81621790720, 12133284098051, 781869035526, 12107524542464, 81788932105, 755931615235, 193514231038128, 1128234811577, 17630857724086, 12107781636275, 193514063855641, 12136235991062, 17631025692691, 1099780456464, 758867036928, 17617967975177, 107642817286, 193526932835075, 756183269641, 193552713318662, 110327365891, 17592187486464, 12094639484928, 12120399351811, 794753699840, 1112408461321, 94506455046, 1138168016896, 794585772035, 68904267785, 17592203214870, 12120666734617, 193527116136464, 1141119123475, 17592371183801, 1112665555120, 193526948167859, 12097580695734, 68988305670, 193539817931017, 771752132864, 17630852284675, 71672859401, 17605072587520, 769067584259, 193514058025734, 1099513073670, 1125293600771, 81621397510, 12133283704841, 781868642304, 12107524935686, 81789325315, 755931222025, 193514231431350, 1128234418355, 17630858117296, 12107781243065, 193514063462419, 12136235597840, 17631025299481, 1099780063254, 758867430150, 17617967581955, 107643210496, 193526932441865, 756182876419, 193552712925440, 110326972681, 17592187093254, 12094639878150, 12120398958601, 794754093062, 1112408068099, 94506061824, 1138167623686, 794586165257, 68904660995, 17617972625430, 12094896537625, 193552886333456, 1115349712915, 17618140594361, 1138434965680, 193552718364851, 12123350892726, 94757716230, 193514047734025, 797522329856, 17605082874115, 97442269961, 17630841998080, 794837781251, 193539828222726, 1125282484230, 1099523403779, 107391594502, 12107514294281, 756099231744, 12133294346246, 107558735875, 781701419017, 193540000841910, 1102465007795, 17605087920304, 12133551440057, 193539833659411, 12110466187280, 17605255888921, 1125550260246, 784636840710, 17592198171395, 81873013504, 193552702638857, 781953073411, 193526943514880, 84557562121, 17617957290246, 12120409288710, 12094629548041, 768983896070, 1138178265091, 68736651264, 1112398213126, 768815968265, 94674071555, 17617973018640, 12094896930835, 193552885940246, 1115349319705, 17618140987571, 1138435358902, 193552717971641, 12123350499504, 94758109440, 193514048127235, 797521936646, 17605082480905, 97442663171, 17630842391302, 794837388041, 193539827829504, 1125282877440, 1099523797001, 107391201280, 12107513901059, 756098838534, 12133294739456, 107559129097, 781701025795, 193540001235120, 1102464614585, 17605088313526, 12133551046835, 193539833266201, 12110465794070, 17605255495699, 1125549867024, 784637233920, 17592197778185, 81873406726, 193552702245635, 781952680201, 193526943121670, 84557168899, 17617956897024, 12120409681920, 12094629154819, 768984289280, 1138177871881, 68736258054, 1112397819904, 768816361475, 94674464777]
def tree228 : PdbModel.OpTree := (OpTree.node (OpTree.node (OpTree.node (OpTree.node (OpTree.node (OpTree.node (OpTree.node (OpTree.node OpTree.leaf 68736258054 OpTree.leaf) 68736651264 (OpTree.node OpTree.leaf 68904267785 OpTree.leaf)) 68904660995 (OpTree.node (OpTree.node OpTree.leaf 68987912448 OpTree.leaf) 68988305670 OpTree.leaf)) 71672466179 (OpTree.node (OpTree.node (OpTree.node OpTree.leaf 71672859401 OpTree.leaf) 81621397510 OpTree.leaf) 81621790720 (OpTree.node (OpTree.node OpTree.leaf 81788932105 OpTree.leaf) 81789325315 OpTree.leaf))) 81873013504 (OpTree.node (OpTree.node (OpTree.node (OpTree.node OpTree.leaf 81873406726 OpTree.leaf) 84557168899 OpTree.leaf) 84557562121 (OpTree.node (OpTree.node OpTree.leaf 94506061824 OpTree.leaf) 94506455046 OpTree.leaf)) 94674071555 (OpTree.node (OpTree.node (OpTree.node OpTree.leaf 94674464777 OpTree.leaf) 94757716230 OpTree.leaf) 94758109440 (OpTree.node (OpTree.node OpTree.leaf 97442269961 OpTree.leaf) 97442663171 OpTree.leaf)))) 107391201280 (OpTree.node (OpTree.node (OpTree.node (OpTree.node (OpTree.node OpTree.leaf 107391594502 OpTree.leaf) 107558735875 OpTree.leaf) 107559129097 (OpTree.node (OpTree.node OpTree.leaf 107642817286 OpTree.leaf) 107643210496 OpTree.leaf)) 110326972681 (OpTree.node (OpTree.node (OpTree.node OpTree.leaf 110327365891 OpTree.leaf) 755931222025 OpTree.leaf) 755931615235 (OpTree.node (OpTree.node OpTree.leaf 756098838534 OpTree.leaf) 756099231744 OpTree.leaf))) 756182876419 (OpTree.node (OpTree.node (OpTree.node (OpTree.node OpTree.leaf 756183269641 OpTree.leaf) 758867036928 OpTree.leaf) 758867430150 (OpTree.node (OpTree.node OpTree.leaf 768815968265 OpTree.leaf) 768816361475 OpTree.leaf)) 768983896070 (OpTree.node (OpTree.node (OpTree.node OpTree.leaf 768984289280 OpTree.leaf) 769067584259 OpTree.leaf) 769067977481 (OpTree.node (OpTree.node OpTree.leaf 771752132864 OpTree.leaf) 771752526086 OpTree.leaf))))) 781701025795 (OpTree.node (OpTree.node (OpTree.node (OpTree.node (OpTree.node (OpTree.node OpTree.leaf 781701419017 OpTree.leaf) 781868642304 OpTree.leaf) 781869035526 (OpTree.node (OpTree.node OpTree.leaf 781952680201 OpTree.leaf) 781953073411 OpTree.leaf)) 784636840710 (OpTree.node (OpTree.node (OpTree.node OpTree.leaf 784637233920 OpTree.leaf) 794585772035 OpTree.leaf) 794586165257 (OpTree.node (OpTree.node OpTree.leaf 794753699840 OpTree.leaf) 794754093062 OpTree.leaf))) 794837388041 (OpTree.node (OpTree.node (OpTree.node (OpTree.node OpTree.leaf 794837781251 OpTree.leaf) 797521936646 OpTree.leaf) 797522329856 (OpTree.node (OpTree.node OpTree.leaf 1099512680448 OpTree.leaf) 1099513073670 OpTree.leaf)) 1099523403779 (OpTree.node (OpTree.node (OpTree.node OpTree.leaf 1099523797001 OpTree.leaf) 1099780063254 OpTree.leaf) 1099780456464 (OpTree.node (OpTree.node OpTree.leaf 1102464614585 OpTree.leaf) 1102465007795 OpTree.leaf)))) 1112397819904 (OpTree.node (OpTree.node (OpTree.node (OpTree.node (OpTree.node OpTree.leaf 1112398213126 OpTree.leaf) 1112408068099 OpTree.leaf) 1112408461321 (OpTree.node (OpTree.node OpTree.leaf 1112665161910 OpTree.leaf) 1112665555120 OpTree.leaf)) 1115349319705 (OpTree.node (OpTree.node (OpTree.node OpTree.leaf 1115349712915 OpTree.leaf) 1125282484230 OpTree.leaf) 1125282877440 (OpTree.node (OpTree.node OpTree.leaf 1125293207561 OpTree.leaf) 1125293600771 OpTree.leaf))) 1125549867024 (OpTree.node (OpTree.node (OpTree.node (OpTree.node OpTree.leaf 1125550260246 OpTree.leaf) 1128234418355 OpTree.leaf) 1128234811577 (OpTree.node (OpTree.node OpTree.leaf 1138167623686 OpTree.leaf) 1138168016896 OpTree.leaf)) 1138177871881 (OpTree.node (OpTree.node (OpTree.node OpTree.leaf 1138178265091 OpTree.leaf) 1138434965680 OpTree.leaf) 1138435358902 (OpTree.node (OpTree.node OpTree.leaf 1141119123475 OpTree.leaf) 1141119516697 OpTree.leaf)))))) 12094629154819 (OpTree.node (OpTree.node (OpTree.node (OpTree.node (OpTree.node (OpTree.node (OpTree.node OpTree.leaf 12094629548041 OpTree.leaf) 12094639484928 OpTree.leaf) 12094639878150 (OpTree.node (OpTree.node OpTree.leaf 12094896537625 OpTree.leaf) 12094896930835 OpTree.leaf)) 12097580695734 (OpTree.node (OpTree.node (OpTree.node OpTree.leaf 12097581088944 OpTree.leaf) 12107513901059 OpTree.leaf) 12107514294281 (OpTree.node (OpTree.node OpTree.leaf 12107524542464 OpTree.leaf) 12107524935686 OpTree.leaf))) 12107781243065 (OpTree.node (OpTree.node (OpTree.node (OpTree.node OpTree.leaf 12107781636275 OpTree.leaf) 12110465794070 OpTree.leaf) 12110466187280 (OpTree.node (OpTree.node OpTree.leaf 12120398958601 OpTree.leaf) 12120399351811 OpTree.leaf)) 12120409288710 (OpTree.node (OpTree.node (OpTree.node OpTree.leaf 12120409681920 OpTree.leaf) 12120666341395 OpTree.leaf) 12120666734617 (OpTree.node (OpTree.node OpTree.leaf 12123350499504 OpTree.leaf) 12123350892726 OpTree.leaf)))) 12133283704841 (OpTree.node (OpTree.node (OpTree.node (OpTree.node (OpTree.node OpTree.leaf 12133284098051 OpTree.leaf) 12133294346246 OpTree.leaf) 12133294739456 (OpTree.node (OpTree.node OpTree.leaf 12133551046835 OpTree.leaf) 12133551440057 OpTree.leaf)) 12136235597840 (OpTree.node (OpTree.node (OpTree.node OpTree.leaf 12136235991062 OpTree.leaf) 17592187093254 OpTree.leaf) 17592187486464 (OpTree.node (OpTree.node OpTree.leaf 17592197778185 OpTree.leaf) 17592198171395 OpTree.leaf))) 17592202821648 (OpTree.node (OpTree.node (OpTree.node (OpTree.node OpTree.leaf 17592203214870 OpTree.leaf) 17592370790579 OpTree.leaf) 17592371183801 (OpTree.node (OpTree.node OpTree.leaf 17605072194310 OpTree.leaf) 17605072587520 OpTree.leaf)) 17605082480905 (OpTree.node (OpTree.node (OpTree.node OpTree.leaf 17605082874115 OpTree.leaf) 17605087920304 OpTree.leaf) 17605088313526 (OpTree.node (OpTree.node OpTree.leaf 17605255495699 OpTree.leaf) 17605255888921 OpTree.leaf))))) 17617956897024 (OpTree.node (OpTree.node (OpTree.node (OpTree.node (OpTree.node (OpTree.node OpTree.leaf 17617957290246 OpTree.leaf) 17617967581955 OpTree.leaf) 17617967975177 (OpTree.node (OpTree.node OpTree.leaf 17617972625430 OpTree.leaf) 17617973018640 OpTree.leaf)) 17618140594361 (OpTree.node (OpTree.node (OpTree.node OpTree.leaf 17618140987571 OpTree.leaf) 17630841998080 OpTree.leaf) 17630842391302 (OpTree.node (OpTree.node OpTree.leaf 17630852284675 OpTree.leaf) 17630852677897 OpTree.leaf))) 17630857724086 (OpTree.node (OpTree.node (OpTree.node (OpTree.node OpTree.leaf 17630858117296 OpTree.leaf) 17631025299481 OpTree.leaf) 17631025692691 (OpTree.node (OpTree.node OpTree.leaf 193514047734025 OpTree.leaf) 193514048127235 OpTree.leaf)) 193514058025734 (OpTree.node (OpTree.node (OpTree.node OpTree.leaf 193514058418944 OpTree.leaf) 193514063462419 OpTree.leaf) 193514063855641 (OpTree.node (OpTree.node OpTree.leaf 193514231038128 OpTree.leaf) 193514231431350 OpTree.leaf)))) 193526932441865 (OpTree.node (OpTree.node (OpTree.node (OpTree.node (OpTree.node OpTree.leaf 193526932835075 OpTree.leaf) 193526943121670 OpTree.leaf) 193526943514880 (OpTree.node (OpTree.node OpTree.leaf 193526948167859 OpTree.leaf) 193526948561081 OpTree.leaf)) 193527116136464 (OpTree.node (OpTree.node (OpTree.node OpTree.leaf 193527116529686 OpTree.leaf) 193539817537795 OpTree.leaf) 193539817931017 (OpTree.node (OpTree.node OpTree.leaf 193539827829504 OpTree.leaf) 193539828222726 OpTree.leaf))) 193539833266201 (OpTree.node (OpTree.node (OpTree.node (OpTree.node OpTree.leaf 193539833659411 OpTree.leaf) 193540000841910 OpTree.leaf) 193540001235120 (OpTree.node (OpTree.node OpTree.leaf 193552702245635 OpTree.leaf) 193552702638857 OpTree.leaf)) 193552712925440 (OpTree.node (OpTree.node (OpTree.node OpTree.leaf 193552713318662 OpTree.leaf) 193552717971641 OpTree.leaf) 193552718364851 (OpTree.node (OpTree.node OpTree.leaf 193552885940246 OpTree.leaf) 193552886333456 OpTree.leaf)))))))
def ops229 : List Nat := [12094896341008, 193514231037968, 1102464417808, 17592370593968, 1099780063408, 193514063265968, 12097580695728, 68987912448, 193514047537408, 758867034368, 17592197579008, 71672269568, 17592187095808, 756182682368, 193514058025728, 1099512680448, 1099523207168, 68736299008, 12094628999168, 756098838528, 12094639443968, 68904030208, 755931025408, 193514231038128, 1102464417968, 17592202821808, 12094896341168, 193514063265808, 12097580695568, 17592370593808, 1099780063248, 758867036928, 17592197581568, 68987915008, 193514047539968, 756182679808, 193514058023168, 71672267008, 17592187093248, 12094639484928, 12094628958208, 756098797568, 1099523166208, 68736258048, 1099512721408, 755931066368, 68904071168, 17617973018646, 12120666538006, 193540001234966, 1128234614806, 17618140790966, 1125550260406, 193539833462966, 12123350892726, 94758109446, 193539817734406, 784637231366, 17617967776006, 97442466566, 17617957292806, 781952879366, 193539828222726, 1125282877446, 1125293404166, 94506496006, 12120399196166, 781869035526, 12120409640966, 94674227206, 781701222406, 193540001235126, 1128234614966, 17617973018806, 12120666538166, 193539833462806, 12123350892566, 17618140790806, 1125550260246, 784637233926, 17617967778566, 94758112006, 193539817736966, 781952876806, 193539828220166, 97442464006, 17617957290246, 12120409681926, 12120399155206, 781868994566, 1125293363206, 94506455046, 1125282918406, 781701263366, 94674268166]
def tree229 : PdbModel.OpTree := (OpTree.node (OpTree.node (OpTree.node (OpTree.node (OpTree.node (OpTree.node (OpTree.node OpTree.leaf 68736258048 OpTree.leaf) 68736299008 (OpTree.node OpTree.leaf 68904030208 OpTree.leaf)) 68904071168 (OpTree.node (OpTree.node OpTree.leaf 68987912448 OpTree.leaf) 68987915008 OpTree.leaf)) 71672267008 (OpTree.node (OpTree.node (OpTree.node OpTree.leaf 71672269568 OpTree.leaf) 94506455046 OpTree.leaf) 94506496006 (OpTree.node (OpTree.node OpTree.leaf 94674227206 OpTree.leaf) 94674268166 OpTree.leaf))) 94758109446 (OpTree.node (OpTree.node (OpTree.node (OpTree.node OpTree.leaf 94758112006 OpTree.leaf) 97442464006 OpTree.leaf) 97442466566 (OpTree.node (OpTree.node OpTree.leaf 755931025408 OpTree.leaf) 755931066368 OpTree.leaf)) 756098797568 (OpTree.node (OpTree.node (OpTree.node OpTree.leaf 756098838528 OpTree.leaf) 756182679808 OpTree.leaf) 756182682368 (OpTree.node (OpTree.node OpTree.leaf 758867034368 OpTree.leaf) 758867036928 OpTree.leaf)))) 781701222406 (OpTree.node (OpTree.node (OpTree.node (OpTree.node (OpTree.node OpTree.leaf 781701263366 OpTree.leaf) 781868994566 OpTree.leaf) 781869035526 (OpTree.node (OpTree.node OpTree.leaf 781952876806 OpTree.leaf) 781952879366 OpTree.leaf)) 784637231366 (OpTree.node (OpTree.node (OpTree.node OpTree.leaf 784637233926 OpTree.leaf) 1099512680448 OpTree.leaf) 1099512721408 (OpTree.node (OpTree.node OpTree.leaf 1099523166208 OpTree.leaf) 1099523207168 OpTree.leaf))) 1099780063248 (OpTree.node (OpTree.node (OpTree.node (OpTree.node OpTree.leaf 1099780063408 OpTree.leaf) 1102464417808 OpTree.leaf) 1102464417968 (OpTree.node (OpTree.node OpTree.leaf 1125282877446 OpTree.leaf) 1125282918406 OpTree.leaf)) 1125293363206 (OpTree.node (OpTree.node (OpTree.node OpTree.leaf 1125293404166 OpTree.leaf) 1125550260246 OpTree.leaf) 1125550260406 (OpTree.node (OpTree.node OpTree.leaf 1128234614806 OpTree.leaf) 1128234614966 OpTree.leaf))))) 12094628958208 (OpTree.node (OpTree.node (OpTree.node (OpTree.node (OpTree.node (OpTree.node OpTree.leaf 12094628999168 OpTree.leaf) 12094639443968 OpTree.leaf) 12094639484928 (OpTree.node (OpTree.node OpTree.leaf 12094896341008 OpTree.leaf) 12094896341168 OpTree.leaf)) 12097580695568 (OpTree.node (OpTree.node (OpTree.node OpTree.leaf 12097580695728 OpTree.leaf) 12120399155206 OpTree.leaf) 12120399196166 (OpTree.node (OpTree.node OpTree.leaf 12120409640966 OpTree.leaf) 12120409681926 OpTree.leaf))) 12120666538006 (OpTree.node (OpTree.node (OpTree.node (OpTree.node OpTree.leaf 12120666538166 OpTree.leaf) 12123350892566 OpTree.leaf) 12123350892726 (OpTree.node (OpTree.node OpTree.leaf 17592187093248 OpTree.leaf) 17592187095808 OpTree.leaf)) 17592197579008 (OpTree.node (OpTree.node (OpTree.node OpTree.leaf 17592197581568 OpTree.leaf) 17592202821648 OpTree.leaf) 17592202821808 (OpTree.node (OpTree.node OpTree.leaf 17592370593808 OpTree.leaf) 17592370593968 OpTree.leaf)))) 17617957290246 (OpTree.node (OpTree.node (OpTree.node (OpTree.node (OpTree.node OpTree.leaf 17617957292806 OpTree.leaf) 17617967776006 OpTree.leaf) 17617967778566 (OpTree.node (OpTree.node OpTree.leaf 17617973018646 OpTree.leaf) 17617973018806 OpTree.leaf)) 17618140790806 (OpTree.node (OpTree.node (OpTree.node OpTree.leaf 17618140790966 OpTree.leaf) 193514047537408 OpTree.leaf) 193514047539968 (OpTree.node (OpTree.node OpTree.leaf 193514058023168 OpTree.leaf) 193514058025728 OpTree.leaf))) 193514063265808 (OpTree.node (OpTree.node (OpTree.node (OpTree.node OpTree.leaf 193514063265968 OpTree.leaf) 193514231037968 OpTree.leaf) 193514231038128 (OpTree.node (OpTree.node OpTree.leaf 193539817734406 OpTree.leaf) 193539817736966 OpTree.leaf)) 193539828220166 (OpTree.node (OpTree.node (OpTree.node OpTree.leaf 193539828222726 OpTree.leaf) 193539833462806 OpTree.leaf) 193539833462966 (OpTree.node (OpTree.node OpTree.leaf 193540001234966 OpTree.leaf) 193540001235126 OpTree.leaf))))))
def ops230 : List Nat := [12107781832723, 193540000841750, 1115349516313, 17592370593974, 1112665555129, 193539833069744, 12110465794227, 68987912448, 193526933029123, 784636838150, 17605082677513, 71672269574, 17605072587529, 781952486144, 193526943124227, 1099512680448, 1125293404160, 107391201283, 12094629392390, 768983937027, 12120409247750, 107559325699, 794585927689, 193514231038128, 1141119320249, 17617972625590, 12133551636659, 193514063265814, 12136235597843, 17618140397584, 1138435358745, 758867036928, 17630852483849, 94757718790, 193552702835459, 756182679814, 193552712925443, 97442070784, 17630842388745, 12094639484928, 12120399155200, 768984289289, 1099523559430, 107391553545, 1125282525190, 768816164873, 81789562883, 17617973018646, 12133551243289, 193514231431184, 1141119713299, 17618140790960, 1138434965683, 193514063659190, 12136235991225, 94758109446, 193552702439689, 758867427584, 17630852874499, 97442466560, 17630841998083, 756183075590, 193552713321225, 1125282877446, 1099523207174, 81621790729, 12120398802944, 794754134025, 12094639837184, 81789128713, 768816517123, 193540001235126, 1115349909683, 17592203215024, 12107781439673, 193539833462800, 12110466187289, 17592370987030, 1112665161747, 784637233926, 17605083073283, 68988308224, 193526932638473, 781952876800, 193526943514889, 71672660230, 17605072191747, 12120409681926, 12094628958214, 794753699843, 1125292969984, 81621356547, 1099513114624, 794586361859, 107558973449]
def tree230 : PdbModel.OpTree := (OpTree.node (OpTree.node (OpTree.node (OpTree.node (OpTree.node (OpTree.node (OpTree.node OpTree.leaf 68987912448 OpTree.leaf) 68988308224 (OpTree.node OpTree.leaf 71672269574 OpTree.leaf)) 71672660230 (OpTree.node (OpTree.node OpTree.leaf 81621356547 OpTree.leaf) 81621790729 OpTree.leaf)) 81789128713 (OpTree.node (OpTree.node (OpTree.node OpTree.leaf 81789562883 OpTree.leaf) 94757718790 OpTree.leaf) 94758109446 (OpTree.node (OpTree.node OpTree.leaf 97442070784 OpTree.leaf) 97442466560 OpTree.leaf))) 107391201283 (OpTree.node (OpTree.node (OpTree.node (OpTree.node OpTree.leaf 107391553545 OpTree.leaf) 107558973449 OpTree.leaf) 107559325699 (OpTree.node (OpTree.node OpTree.leaf 756182679814 OpTree.leaf) 756183075590 OpTree.leaf)) 758867036928 (OpTree.node (OpTree.node (OpTree.node OpTree.leaf 758867427584 OpTree.leaf) 768816164873 OpTree.leaf) 768816517123 (OpTree.node (OpTree.node OpTree.leaf 768983937027 OpTree.leaf) 768984289289 OpTree.leaf)))) 781952486144 (OpTree.node (OpTree.node (OpTree.node (OpTree.node (OpTree.node OpTree.leaf 781952876800 OpTree.leaf) 784636838150 OpTree.leaf) 784637233926 (OpTree.node (OpTree.node OpTree.leaf 794585927689 OpTree.leaf) 794586361859 OpTree.leaf)) 794753699843 (OpTree.node (OpTree.node (OpTree.node OpTree.leaf 794754134025 OpTree.leaf) 1099512680448 OpTree.leaf) 1099513114624 (OpTree.node (OpTree.node OpTree.leaf 1099523207174 OpTree.leaf) 1099523559430 OpTree.leaf))) 1112665161747 (OpTree.node (OpTree.node (OpTree.node (OpTree.node OpTree.leaf 1112665555129 OpTree.leaf) 1115349516313 OpTree.leaf) 1115349909683 (OpTree.node (OpTree.node OpTree.leaf 1125282525190 OpTree.leaf) 1125282877446 OpTree.leaf)) 1125292969984 (OpTree.node (OpTree.node (OpTree.node OpTree.leaf 1125293404160 OpTree.leaf) 1138434965683 OpTree.leaf) 1138435358745 (OpTree.node (OpTree.node OpTree.leaf 1141119320249 OpTree.leaf) 1141119713299 OpTree.leaf))))) 12094628958214 (OpTree.node (OpTree.node (OpTree.node (OpTree.node (OpTree.node (OpTree.node OpTree.leaf 12094629392390 OpTree.leaf) 12094639484928 OpTree.leaf) 12094639837184 (OpTree.node (OpTree.node OpTree.leaf 12107781439673 OpTree.leaf) 12107781832723 OpTree.leaf)) 12110465794227 (OpTree.node (OpTree.node (OpTree.node OpTree.leaf 12110466187289 OpTree.leaf) 12120398802944 OpTree.leaf) 12120399155200 (OpTree.node (OpTree.node OpTree.leaf 12120409247750 OpTree.leaf) 12120409681926 OpTree.leaf))) 12133551243289 (OpTree.node (OpTree.node (OpTree.node (OpTree.node OpTree.leaf 12133551636659 OpTree.leaf) 12136235597843 OpTree.leaf) 12136235991225 (OpTree.node (OpTree.node OpTree.leaf 17592202821648 OpTree.leaf) 17592203215024 OpTree.leaf)) 17592370593974 (OpTree.node (OpTree.node (OpTree.node OpTree.leaf 17592370987030 OpTree.leaf) 17605072191747 OpTree.leaf) 17605072587529 (OpTree.node (OpTree.node OpTree.leaf 17605082677513 OpTree.leaf) 17605083073283 OpTree.leaf)))) 17617972625590 (OpTree.node (OpTree.node (OpTree.node (OpTree.node (OpTree.node OpTree.leaf 17617973018646 OpTree.leaf) 17618140397584 OpTree.leaf) 17618140790960 (OpTree.node (OpTree.node OpTree.leaf 17630841998083 OpTree.leaf) 17630842388745 OpTree.leaf)) 17630852483849 (OpTree.node (OpTree.node (OpTree.node OpTree.leaf 17630852874499 OpTree.leaf) 193514063265814 OpTree.leaf) 193514063659190 (OpTree.node (OpTree.node OpTree.leaf 193514231038128 OpTree.leaf) 193514231431184 OpTree.leaf))) 193526932638473 (OpTree.node (OpTree.node (OpTree.node (OpTree.node OpTree.leaf 193526933029123 OpTree.leaf) 193526943124227 OpTree.leaf) 193526943514889 (OpTree.node (OpTree.node OpTree.leaf 193539833069744 OpTree.leaf) 193539833462800 OpTree.leaf)) 193540000841750 (OpTree.node (OpTree.node (OpTree.node OpTree.leaf 193540001235126 OpTree.leaf) 193552702439689 OpTree.leaf) 193552702835459 (OpTree.node (OpTree.node OpTree.leaf 193552712925443 OpTree.leaf) 193552713321225 OpTree.leaf))))))

end SG

def sgChunk0 : List (PdbModel.OpTree × List Nat) := [(SG.tree001, SG.ops001), (SG.tree002, SG.ops002), (SG.tree003, SG.ops003), (SG.tree004, SG.ops004), (SG.tree005, SG.ops005), (SG.tree006, SG.ops006), (SG.tree007, SG.ops007), (SG.tree008, SG.ops008), (SG.tree009, SG.ops009), (SG.tree010, SG.ops010)]
def sgChunk1 : List (PdbModel.OpTree × List Nat) := [(SG.tree011, SG.ops011), (SG.tree012, SG.ops012), (SG.tree013, SG.ops013), (SG.tree014, SG.ops014), (SG.tree015, SG.ops015), (SG.tree016, SG.ops016), (SG.tree017, SG.ops017), (SG.tree018, SG.ops018), (SG.tree019, SG.ops019), (SG.tree020, SG.ops020)]
def sgChunk2 : List (PdbModel.OpTree × List Nat) := [(SG.tree021, SG.ops021), (SG.tree022, SG.ops022), (SG.tree023, SG.ops023), (SG.tree024, SG.ops024), (SG.tree025, SG.ops025), (SG.tree026, SG.ops026), (SG.tree027, SG.ops027), (SG.tree028, SG.ops028), (SG.tree029, SG.ops029), (SG.tree030, SG.ops030)]
def sgChunk3 : List (PdbModel.OpTree × List Nat) := [(SG.tree031, SG.ops031), (SG.tree032, SG.ops032), (SG.tree033, SG.ops033), (SG.tree034, SG.ops034), (SG.tree035, SG.ops035), (SG.tree036, SG.ops036), (SG.tree037, SG.ops037), (SG.tree038, SG.ops038), (SG.tree039, SG.ops039), (SG.tree040, SG.ops040)]
def sgChunk4 : List (PdbModel.OpTree × List Nat) := [(SG.tree041, SG.ops041), (SG.tree042, SG.ops042), (SG.tree043, SG.ops043), (SG.tree044, SG.ops044), (SG.tree045, SG.ops045), (SG.tree046, SG.ops046), (SG.tree047, SG.ops047), (SG.tree048, SG.ops048), (SG.tree049, SG.ops049), (SG.tree050, SG.ops050)]
def sgChunk5 : List (PdbModel.OpTree × List Nat) := [(SG.tree051, SG.ops051), (SG.tree052, SG.ops052), (SG.tree053, SG.ops053), (SG.tree054, SG.ops054), (SG.tree055, SG.ops055), (SG.tree056, SG.ops056), (SG.tree057, SG.ops057), (SG.tree058, SG.ops058), (SG.tree059, SG.ops059), (SG.tree060, SG.ops060)]
def sgChunk6 : List (PdbModel.OpTree × List Nat) := [(SG.tree061, SG.ops061), (SG.tree062, SG.ops062), (SG.tree063, SG.ops063), (SG.tree064, SG.ops064), (SG.tree065, SG.ops065), (SG.tree066, SG.ops066), (SG.tree067, SG.ops067), (SG.tree068, SG.ops068), (SG.tree069, SG.ops069), (SG.tree070, SG.ops070)]
def sgChunk7 : List (PdbModel.OpTree × List Nat) := [(SG.tree071, SG.ops071), (SG.tree072, SG.ops072), (SG.tree073, SG.ops073), (SG.tree074, SG.ops074), (SG.tree075, SG.ops075), (SG.tree076, SG.ops076), (SG.tree077, SG.ops077), (SG.tree078, SG.ops078), (SG.tree079, SG.ops079), (SG.tree080, SG.ops080)]
def sgChunk8 : List (PdbModel.OpTree × List Nat) := [(SG.tree081, SG.ops081), (SG.tree082, SG.ops082), (SG.tree083, SG.ops083), (SG.tree084, SG.ops084), (SG.tree085, SG.ops085), (SG.tree086, SG.ops086), (SG.tree087, SG.ops087), (SG.tree088, SG.ops088), (SG.tree089, SG.ops089), (SG.tree090, SG.ops090)]
def sgChunk9 : List (PdbModel.OpTree × List Nat) := [(SG.tree091, SG.ops091), (SG.tree092, SG.ops092), (SG.tree093, SG.ops093), (SG.tree094, SG.ops094), (SG.tree095, SG.ops095), (SG.tree096, SG.ops096), (SG.tree097, SG.ops097), (SG.tree098, SG.ops098), (SG.tree099, SG.ops099), (SG.tree100, SG.ops100)]
def sgChunk10 : List (PdbModel.OpTree × List Nat) := [(SG.tree101, SG.ops101), (SG.tree102, SG.ops102), (SG.tree103, SG.ops103), (SG.tree104, SG.ops104), (SG.tree105, SG.ops105), (SG.tree106, SG.ops106), (SG.tree107, SG.ops107), (SG.tree108, SG.ops108), (SG.tree109, SG.ops109), (SG.tree110, SG.ops110)]
def sgChunk11 : List (PdbModel.OpTree × List Nat) := [(SG.tree111, SG.ops111), (SG.tree112, SG.ops112), (SG.tree113, SG.ops113), (SG.tree114, SG.ops114), (SG.tree115, SG.ops115), (SG.tree116, SG.ops116), (SG.tree117, SG.ops117), (SG.tree118, SG.ops118), (SG.tree119, SG.ops119), (SG.tree120, SG.ops120)]
def sgChunk12 : List (PdbModel.OpTree × List Nat) := [(SG.tree121, SG.ops121), (SG.tree122, SG.ops122), (SG.tree123, SG.ops123), (SG.tree124, SG.ops124), (SG.tree125, SG.ops125), (SG.tree126, SG.ops126), (SG.tree127, SG.ops127), (SG.tree128, SG.ops128), (SG.tree129, SG.ops129), (SG.tree130, SG.ops130)]
def sgChunk13 : List (PdbModel.OpTree × List Nat) := [(SG.tree131, SG.ops131), (SG.tree132, SG.ops132), (SG.tree133, SG.ops133), (SG.tree134, SG.ops134), (SG.tree135, SG.ops135), (SG.tree136, SG.ops136), (SG.tree137, SG.ops137), (SG.tree138, SG.ops138), (SG.tree139, SG.ops139), (SG.tree140, SG.ops140)]
def sgChunk14 : List (PdbModel.OpTree × List Nat) := [(SG.tree141, SG.ops141), (SG.tree142, SG.ops142), (SG.tree143, SG.ops143), (SG.tree144, SG.ops144), (SG.tree145, SG.ops145), (SG.tree146, SG.ops146), (SG.tree147, SG.ops147), (SG.tree148, SG.ops148), (SG.tree149, SG.ops149), (SG.tree150, SG.ops150)]
def sgChunk15 : List (PdbModel.OpTree × List Nat) := [(SG.tree151, SG.ops151), (SG.tree152, SG.ops152), (SG.tree153, SG.ops153), (SG.tree154, SG.ops154), (SG.tree155, SG.ops155), (SG.tree156, SG.ops156), (SG.tree157, SG.ops157), (SG.tree158, SG.ops158), (SG.tree159, SG.ops159), (SG.tree160, SG.ops160)]
def sgChunk16 : List (PdbModel.OpTree × List Nat) := [(SG.tree161, SG.ops161), (SG.tree162, SG.ops162), (SG.tree163, SG.ops163), (SG.tree164, SG.ops164), (SG.tree165, SG.ops165), (SG.tree166, SG.ops166), (SG.tree167, SG.ops167), (SG.tree168, SG.ops168), (SG.tree169, SG.ops169), (SG.tree170, SG.ops170)]
def sgChunk17 : List (PdbModel.OpTree × List Nat) := [(SG.tree171, SG.ops171), (SG.tree172, SG.ops172), (SG.tree173, SG.ops173), (SG.tree174, SG.ops174), (SG.tree175, SG.ops175), (SG.tree176, SG.ops176), (SG.tree177, SG.ops177), (SG.tree178, SG.ops178), (SG.tree179, SG.ops179), (SG.tree180, SG.ops180)]
def sgChunk18 : List (PdbModel.OpTree × List Nat) := [(SG.tree181, SG.ops181), (SG.tree182, SG.ops182), (SG.tree183, SG.ops183), (SG.tree184, SG.ops184), (SG.tree185, SG.ops185), (SG.tree186, SG.ops186), (SG.tree187, SG.ops187), (SG.tree188, SG.ops188), (SG.tree189, SG.ops189), (SG.tree190, SG.ops190)]
def sgChunk19 : List (PdbModel.OpTree × List Nat) := [(SG.tree191, SG.ops191), (SG.tree192, SG.ops192), (SG.tree193, SG.ops193), (SG.tree194, SG.ops194), (SG.tree195, SG.ops195), (SG.tree196, SG.ops196), (SG.tree197, SG.ops197), (SG.tree198, SG.ops198), (SG.tree199, SG.ops199), (SG.tree200, SG.ops200)]
def sgChunk20 : List (PdbModel.OpTree × List Nat) := [(SG.tree201, SG.ops201), (SG.tree202, SG.ops202), (SG.tree203, SG.ops203), (SG.tree204, SG.ops204), (SG.tree205, SG.ops205), (SG.tree206, SG.ops206), (SG.tree207, SG.ops207), (SG.tree208, SG.ops208), (SG.tree209, SG.ops209), (SG.tree210, SG.ops210)]
def sgChunk21 : List (PdbModel.OpTree × List Nat) := [(SG.tree211, SG.ops211), (SG.tree212, SG.ops212), (SG.tree213, SG.ops213), (SG.tree214, SG.ops214), (SG.tree215, SG.ops215), (SG.tree216, SG.ops216), (SG.tree217, SG.ops217), (SG.tree218, SG.ops218), (SG.tree219, SG.ops219), (SG.tree220, SG.ops220)]
def sgChunk22 : List (PdbModel.OpTree × List Nat) := [(SG.tree221, SG.ops221), (SG.tree222, SG.ops222), (SG.tree223, SG.ops223), (SG.tree224, SG.ops224), (SG.tree225, SG.ops225), (SG.tree226, SG.ops226), (SG.tree227, SG.ops227), (SG.tree228, SG.ops228), (SG.tree229, SG.ops229), (SG.tree230, SG.ops230)]

/-- (search tree, operators) per group, group 1 first -/
def sgTable : List (PdbModel.OpTree × List Nat) := sgChunk0 ++ (sgChunk1 ++ (sgChunk2 ++ (sgChunk3 ++ (sgChunk4 ++ (sgChunk5 ++ (sgChunk6 ++ (sgChunk7 ++ (sgChunk8 ++ (sgChunk9 ++ (sgChunk10 ++ (sgChunk11 ++ (sgChunk12 ++ (sgChunk13 ++ (sgChunk14 ++ (sgChunk15 ++ (sgChunk16 ++ (sgChunk17 ++ (sgChunk18 ++ (sgChunk19 ++ (sgChunk20 ++ (sgChunk21 ++ (sgChunk22))))))))))))))))))))))

/-- operator table indexed by group number - 1 -/
def sgOps : List (List Nat) := sgTable.map (·.2)

end PdbModel.Gen
