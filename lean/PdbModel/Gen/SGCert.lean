/- GENERATED by tools/gen_tables.py from src/reference/crystal_transformations.txt — do not edit -/
import PdbModel.Gen.SGAll
namespace PdbModel.Gen

/-! per group a closure certificate (`certOk` in `Lemmas/SG.lean`): a few operators with exponents whose products of
powers are exactly the operators of the group; `sgCert` lists them in the order of `sgTable` -/

def sgCert0 : List (List (Nat × Nat)) := [[], [(193514231038128, 2)], [(193514063265968, 2)], [(193514063659184, 2)], [(193514063265968, 2), (17617973018640, 2)], [(17592370593808, 2)], [(17592370593814, 2)], [(17617973018640, 2), (17592370593808, 2)], [(17617973018640, 2), (17592370593814, 2)], [(193514063265968, 2), (17592370593808, 2)]]
def sgCert1 : List (List (Nat × Nat)) := [[(193514063659184, 2), (17592370987024, 2)], [(193514063265968, 2), (17617973018640, 2), (17592370593808, 2)], [(193514063265974, 2), (17592370593814, 2)], [(193514063659190, 2), (17592370987030, 2)], [(193514063265974, 2), (17617973018640, 2), (17592370593814, 2)], [(193514063265968, 2), (17592370593968, 2)], [(193514063265974, 2), (17592370593968, 2)], [(193514231037968, 2), (17618140790960, 2)], [(193514063659190, 2), (17618140790960, 2)], [(193514063265974, 2), (17617973018640, 2), (17592370593968, 2)]]
def sgCert2 : List (List (Nat × Nat)) := [[(193514063265968, 2), (17617973018640, 2), (17592370593968, 2)], [(193514063265968, 2), (17617972625430, 2), (17592370593968, 2), (17592203214870, 2)], [(193514063265968, 2), (17617973018646, 2), (17592370593968, 2)], [(193514063659190, 2), (17617973018646, 2), (17592370593974, 2)], [(193514063265808, 2), (17592370593808, 2)], [(193514063265808, 2), (17592370593814, 2)], [(193514063265814, 2), (17592370593814, 2)], [(193514231037968, 2), (17618140397584, 2)], [(193514231037974, 2), (17618140397584, 2)], [(193514063659030, 2), (17592370987030, 2)]]
def sgCert3 : List (List (Nat × Nat)) := [[(193514063265808, 2), (17618140397590, 2)], [(193514231037968, 2), (17618140790800, 2)], [(193514231037974, 2), (17618140790800, 2)], [(193514231037968, 2), (17618140790806, 2)], [(193514063265808, 2), (17617973018640, 2), (17592370593808, 2)], [(193514063265808, 2), (17617973018640, 2), (17592370593814, 2)], [(193514063265814, 2), (17617973018640, 2), (17592370593814, 2)], [(193514063265808, 2), (17592370593808, 2), (17592203214870, 2)], [(193514063265814, 2), (17592370593814, 2), (17592203214870, 2)], [(193514231037968, 2), (17618140397584, 2), (17592203214870, 2)]]
def sgCert4 : List (List (Nat × Nat)) := [[(193514231037968, 2), (17618140397590, 2), (17592203214870, 2)], [(193514063265808, 2), (17617972625430, 2), (17592370593808, 2), (17592203214870, 2)], [(193526948364307, 4), (17605255692307, 4)], [(193514063265808, 2), (17617973018646, 2), (17592370593808, 2)], [(193514063265814, 2), (17617973018646, 2), (17592370593814, 2)], [(193514063659030, 2), (17617973018646, 2), (17592370987030, 2)], [(193514063265808, 2), (17592370593808, 2), (17592202821808, 2)], [(193514063659030, 2), (17617973018800, 2), (17592370987190, 2)], [(193514063265814, 2), (17592370593814, 2), (17592202821808, 2)], [(193514063659024, 2), (17617973018800, 2), (17592370987184, 2)]]
def sgCert5 : List (List (Nat × Nat)) := [[(193514063265968, 2), (17617972625584, 2), (17592370593808, 2)], [(193514063659030, 2), (17617972625584, 2), (17592370987190, 2)], [(193514063265808, 2), (17617972625590, 2), (17592370593968, 2)], [(193514063265974, 2), (17617972625584, 2), (17592370593814, 2)], [(193514231037968, 2), (17618140790800, 2), (17592202821808, 2)], [(193514063659190, 2), (17617973018800, 2), (17592370987030, 2)], [(193514063659024, 2), (17592370987030, 2), (17592202821814, 2)], [(193514231037968, 2), (17618140790806, 2), (17592202821808, 2)], [(193514063659184, 2), (17617973018800, 2), (17592370987024, 2)], [(193514063265974, 2), (17617973018806, 2), (17592370593814, 2)]]
def sgCert6 : List (List (Nat × Nat)) := [[(193514063659190, 2), (17617972625590, 2), (17592370987030, 2)], [(193514063659184, 2), (17617972625590, 2), (17592370987024, 2)], [(193514063265808, 2), (17617973018640, 2), (17592370593814, 2), (17592202821814, 2)], [(193514063265808, 2), (17617972625590, 2), (17592370593968, 2), (17592203215030, 2)], [(193514063265808, 2), (17617973018640, 2), (17592370593808, 2), (17592202821808, 2)], [(193514063265814, 2), (17617973018640, 2), (17592370593814, 2), (17592202821808, 2)], [(193514063265808, 2), (17617972625584, 2), (17592370593968, 2), (17592203215024, 2)], [(193514063265974, 2), (17617972625584, 2), (17592370593814, 2), (17592203215024, 2)], [(193514063265808, 2), (17617972625430, 2), (17592370593808, 2), (17592203214870, 2), (17592202821808, 2)], [(193514063462419, 2), (17605255495699, 4), (17605087920304, 4)]]
def sgCert7 : List (List (Nat × Nat)) := [[(193514063265808, 2), (17617973018646, 2), (17592370593808, 2), (17592202821808, 2)], [(193514063265814, 2), (17617973018646, 2), (17592370593814, 2), (17592202821808, 2)], [(193514063265814, 2), (17617972625590, 2), (17592370593974, 2), (17592203215024, 2)], [(193514063265808, 2), (17617972625590, 2), (17592370593968, 2), (17592203215024, 2)], [(1102464417808, 4)], [(1102464417817, 4)], [(1102464417814, 4)], [(1102464417811, 4)], [(1128234614806, 2), (1102464417808, 4)], [(1128234221593, 2), (1102464811027, 4)]]
def sgCert8 : List (List (Nat × Nat)) := [[(1102464417968, 4)], [(1128234614966, 2), (1102464417968, 4)], [(1102464417968, 2), (1102464417808, 4)], [(1102464417974, 2), (1102464417814, 4)], [(1128234221744, 2), (1102464811024, 4)], [(1128234221590, 2), (1102464811190, 4)], [(1128234614806, 2), (1102464417968, 2), (1102464417808, 4)], [(1115349909689, 4), (1115349516307, 4)], [(1099780063408, 2), (1102464417808, 4)], [(1099780063408, 2), (1128234614800, 4)]]
def sgCert9 : List (List (Nat × Nat)) := [[(1099780063417, 2), (1102464417817, 4)], [(1099780063408, 2), (1128234614809, 4)], [(1099780063414, 2), (1102464417814, 4)], [(1099780063408, 2), (1128234614806, 4)], [(1099780063411, 2), (1102464417811, 4)], [(1099780063408, 2), (1128234614803, 4)], [(1125550260406, 2), (1099780063408, 2), (1102464417808, 4)], [(1125550260406, 2), (1099780063408, 2), (1102464811027, 4)], [(1099780063248, 2), (1102464417808, 4)], [(1125550260240, 2), (1102464417808, 4)]]
def sgCert10 : List (List (Nat × Nat)) := [[(1099780063248, 2), (1102464417814, 4)], [(1099780063248, 2), (1128234614806, 4)], [(1099780063254, 2), (1102464417808, 4)], [(1125550260246, 2), (1102464417808, 4)], [(1099780063254, 2), (1102464417814, 4)], [(1125550260246, 2), (1102464417814, 4)], [(1125550260246, 2), (1099780063248, 2), (1102464417808, 4)], [(1125550260240, 2), (1099780063254, 2), (1102464417808, 4)], [(1102464811027, 4), (1099780456467, 4)], [(1102464811027, 4), (1099780456473, 4)]]
def sgCert11 : List (List (Nat × Nat)) := [[(1099780063248, 2), (1102464417968, 4)], [(1099780063254, 2), (1102464417968, 4)], [(1125550260240, 2), (1102464417968, 4)], [(1125550260246, 2), (1102464417968, 4)], [(1099780063408, 2), (1102464417968, 4)], [(1099780063414, 2), (1102464417968, 4)], [(1125550260400, 2), (1102464417968, 4)], [(1125550260406, 2), (1102464417968, 4)], [(1125550260406, 2), (1099780063408, 2), (1102464417968, 4)], [(1125550260400, 2), (1099780063414, 2), (1102464417968, 4)]]
def sgCert12 : List (List (Nat × Nat)) := [[(1125550260246, 2), (1099780063248, 2), (1102464417968, 4)], [(1102464417968, 4), (1099780456467, 4)], [(1099780063408, 2), (1099780063248, 2), (1102464417808, 4)], [(1099780063414, 2), (1099780063254, 2), (1102464417808, 4)], [(1125550260240, 2), (1099780063408, 2), (1102464811024, 4)], [(1125550260246, 2), (1099780063414, 2), (1102464811024, 4)], [(1125550260240, 2), (1102464417968, 2), (1102464417808, 4)], [(1125550260246, 2), (1102464417968, 2), (1102464417808, 4)], [(1125550260400, 2), (1099780063248, 2), (1102464811024, 4)], [(1125550260406, 2), (1099780063254, 2), (1102464811024, 4)]]
def sgCert13 : List (List (Nat × Nat)) := [[(1099780063414, 2), (1099780063254, 2), (1102464417814, 4)], [(1099780063408, 2), (1099780063248, 2), (1102464417814, 4)], [(1125550260246, 2), (1099780063414, 2), (1102464811030, 4)], [(1125550260240, 2), (1099780063408, 2), (1102464811030, 4)], [(1125550260246, 2), (1102464417974, 2), (1102464417814, 4)], [(1099780063408, 2), (1099780063248, 2), (1128234614806, 4)], [(1125550260406, 2), (1099780063254, 2), (1102464811030, 4)], [(1125550260400, 2), (1099780063248, 2), (1102464811030, 4)], [(1125550260246, 2), (1099780063408, 2), (1099780063248, 2), (1102464417808, 4)], [(1125550260240, 2), (1099780063414, 2), (1099780063254, 2), (1102464417808, 4)]]
def sgCert14 : List (List (Nat × Nat)) := [[(1112665555123, 2), (1115349516313, 4), (1112665161753, 4)], [(1112665555129, 2), (1115349516313, 4), (1112665161747, 4)], [(12095080890384, 3)], [(12095080890388, 3)], [(12095080890392, 3)], [(12112261283864, 3), (12095080890384, 3)], [(1102481195184, 6)], [(12112261283864, 3), (1102481195184, 6)], [(12097580695728, 2), (12095080890384, 3)], [(1099780063408, 2), (12095080890384, 3)]]
def sgCert15 : List (List (Nat × Nat)) := [[(12097580695736, 2), (12095080890388, 3)], [(1099780063408, 2), (12095080890388, 3)], [(12097580695732, 2), (12095080890392, 3)], [(1099780063408, 2), (12095080890392, 3)], [(1099780063408, 2), (12112261283864, 3), (12095080890384, 3)], [(12097580695568, 2), (12095080890384, 3)], [(1099780063248, 2), (12095080890384, 3)], [(12097580695574, 2), (12095080890384, 3)], [(1099780063254, 2), (12095080890384, 3)], [(12095080890384, 3), (12114761089048, 6)]]
def sgCert16 : List (List (Nat × Nat)) := [[(12095080890384, 3), (12114761089042, 6)], [(1099780063248, 2), (1102481195184, 6)], [(1099780063254, 2), (1102481195184, 6)], [(1099780063408, 2), (1102481195184, 6)], [(1099780063414, 2), (1102481195184, 6)], [(12114761089048, 6), (1102481195184, 6)], [(12114761089042, 6), (1102481195184, 6)], [(1102481195024, 6)], [(1102481195034, 6)], [(1102481195026, 6)]]
def sgCert17 : List (List (Nat × Nat)) := [[(1102481195032, 6)], [(1102481195028, 6)], [(1102481195030, 6)], [(12095080890544, 6)], [(1102481195184, 2), (1102481195024, 6)], [(1102481195184, 2), (1102481195030, 6)], [(1099780063408, 2), (1102481195024, 6)], [(1099780063412, 2), (1102481195034, 6)], [(1099780063416, 2), (1102481195026, 6)], [(1099780063416, 2), (1102481195032, 6)]]
def sgCert18 : List (List (Nat × Nat)) := [[(1099780063412, 2), (1102481195028, 6)], [(1099780063408, 2), (1102481195030, 6)], [(1099780063248, 2), (1102481195024, 6)], [(1099780063254, 2), (1102481195024, 6)], [(1099780063248, 2), (1102481195030, 6)], [(1099780063254, 2), (1102481195030, 6)], [(12097580695568, 2), (12095080890544, 6)], [(12097580695574, 2), (12095080890550, 6)], [(1099780063248, 2), (12095080890544, 6)], [(1099780063254, 2), (12095080890550, 6)]]
def sgCert19 : List (List (Nat × Nat)) := [[(1099780063408, 2), (1099780063248, 2), (1102481195024, 6)], [(1099780063414, 2), (1099780063254, 2), (1102481195024, 6)], [(1099780063414, 2), (1099780063248, 2), (1102481195030, 6)], [(1099780063408, 2), (1099780063254, 2), (1102481195030, 6)], [(68987912448, 3), (193514063265968, 2), (17592370593968, 2)], [(68987912448, 3), (193514063265968, 2), (17617972625430, 2), (17592370593968, 2), (17592203214870, 2)], [(68987912448, 3), (193514063265968, 2), (17617973018646, 2), (17592370593968, 2)], [(68987912448, 3), (193514063659190, 2), (17618140790960, 2)], [(68987912448, 3), (193514063659190, 2), (17617973018646, 2), (17592370593974, 2)], [(68987915008, 6), (17592370593808, 2), (17592202821808, 2)]]
def sgCert20 : List (List (Nat × Nat)) := [[(94758112000, 6), (17617973018800, 2), (17592370987190, 2)], [(68987915008, 6), (17617972625430, 2), (17592370593808, 2), (17592203214870, 2), (17592202821808, 2)], [(81873013504, 6), (17605255495699, 4), (17605087920304, 4)], [(94758109446, 2), (68987915008, 6), (17592370593808, 2), (17592202821808, 2)], [(71672660230, 6), (17617972625590, 2), (17592370987030, 2)], [(68988308224, 6), (17617972625590, 2), (17592370593974, 2), (17592203215024, 2)], [(68987912448, 3), (68904030208, 2), (68736299008, 4)], [(68987912448, 3), (94674227206, 2), (94506496006, 4)], [(68987912448, 3), (68904030208, 2), (68736692230, 4), (68736299008, 4)], [(68987912448, 3), (81789128707, 2), (81621790729, 4), (81621397507, 4)]]
def sgCert21 : List (List (Nat × Nat)) := [[(68736299008, 4), (756098838528, 2), (94758109446, 6)], [(68987912448, 3), (107559325699, 2), (81621790729, 4)], [(68987912448, 3), (81789128713, 2), (107391201283, 4)], [(81621790729, 4), (768983937027, 2), (71672269574, 6)], [(68987912448, 3), (68736258048, 2), (68904071168, 4)], [(68987912448, 3), (68736258048, 2), (68904071168, 4), (68736651270, 4)], [(68904071168, 4), (68736258048, 2), (94758109446, 6)], [(68987912448, 3), (94506455046, 2), (94674268166, 4)], [(68987912448, 3), (68736651264, 2), (68904071174, 4), (68736258054, 4)], [(81789562883, 4), (81621356547, 2), (71672269574, 6)]]
def sgCert22 : List (List (Nat × Nat)) := [[(68736299008, 4), (68904030208, 2), (68987915008, 6)], [(68736299014, 4), (68904423424, 2), (94758112000, 6)], [(94506496006, 4), (94674227206, 2), (68987915008, 6)], [(68904464390, 4), (94673833990, 2), (94758112000, 6)], [(68736651270, 4), (68736299008, 4), (68904030208, 2), (68987915008, 6)], [(68736299014, 4), (68904030214, 4), (94674227206, 2), (68987915008, 6)], [(68904267779, 4), (81788932099, 4), (81789325321, 2), (81873013504, 6)], [(68904267785, 4), (81789325315, 4), (107558735875, 2), (81873013504, 6)], [(94506455046, 2), (68736299008, 4), (68904030208, 2), (68987915008, 6)], [(81621790729, 4), (768816164873, 4), (68988308224, 6)]]

def sgCert : List (List (Nat × Nat)) := sgCert0 ++ (sgCert1 ++ (sgCert2 ++ (sgCert3 ++ (sgCert4 ++ (sgCert5 ++ (sgCert6 ++ (sgCert7 ++ (sgCert8 ++ (sgCert9 ++ (sgCert10 ++ (sgCert11 ++ (sgCert12 ++ (sgCert13 ++ (sgCert14 ++ (sgCert15 ++ (sgCert16 ++ (sgCert17 ++ (sgCert18 ++ (sgCert19 ++ (sgCert20 ++ (sgCert21 ++ (sgCert22))))))))))))))))))))))

end PdbModel.Gen
