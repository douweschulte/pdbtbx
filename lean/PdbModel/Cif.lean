/-
The CIF lexer of pdbtbx (`src/read/mmcif/lexer.rs`) as total functions on `List Char`.

Positions (line / column) are not modelled: they only feed the contexts of diagnostics, which the mmCIF
properties do not speak about.  Every loop of the Rust code is a recursion here whose termination Lean checks
(`termination_by … decreasing_by`): the termination proofs are the "never loops" part of C06.

Core Lean only.
-/
import PdbModel.PdbText
namespace PdbModel

/-- white space of `trim_whitespace`: blank, tab and the two line-break characters -/
def isCifWs (c : Char) : Bool := c == ' ' || c == '\t' || c == '\n' || c == '\r'

/-- `char::is_ascii_whitespace` (ends an identifier): the above plus form feed -/
def isAsciiWs (c : Char) : Bool := c == ' ' || c == '\t' || c == '\n' || c == '\r' || c.toNat == 12

/-- `trim_comments_and_whitespace`; the flag says "inside a comment".  (`skip_to_eol` also swallows the second
character of a CRLF / LFCR pair — which is white space and would be trimmed anyway.) -/
def trimCW : Bool → List Char → List Char
  | _, [] => []
  | true, c :: r => if c == '\n' || c == '\r' then trimCW false r else trimCW true r
  | false, c :: r => if isCifWs c then trimCW false r else if c == '#' then trimCW true r else c :: r

/-- `start_with`: case-insensitive prefix test, returns the rest -/
def startWith (pat : List Char) (s : List Char) : Option (List Char) :=
  if (s.take pat.length).map lowerAscii == pat then some (s.drop pat.length) else none

/-- `parse_identifier`: everything up to the next ASCII white space -/
def identOf (s : List Char) : List Char := s.takeWhile (fun c => !isAsciiWs c)
def afterIdent (s : List Char) : List Char := s.dropWhile (fun c => !isAsciiWs c)

/-! ## values -/

inductive CifValue where
  | inapplicable
  | unknown
  /-- exact decimal value, number of significant mantissa digits, the token -/
  | num (f : Flt) (sig : Nat) (tok : List Char)
  | numU (f : Flt) (sig : Nat) (tok : List Char) (u : Nat)
  | text (s : List Char)
  deriving Repr, DecidableEq, Inhabited

def i32Max : Nat := 2147483647
def u32Max : Nat := 4294967295

/-- `parse_numeric` (after the repairs: exponent and uncertainty saturate, the value is the correctly rounded
`f64` of the literal).  The value is kept as an exact decimal. -/
def parseNumeric (t : List Char) : Option CifValue :=
  let (neg, b) := match t with | '-' :: r => (true, r) | '+' :: r => (false, r) | r => (false, r)
  let ip := b.takeWhile isDigit
  let r1 := b.dropWhile isDigit
  let (fp, r2) := match r1 with
    | '.' :: r => (r.takeWhile isDigit, r.dropWhile isDigit)
    | r => ([], r)
  -- exponent: `none` = the whole token is not a number
  let expo : Option (Option Int × List Char) :=
    match r2 with
    | e :: r =>
      if e == 'e' || e == 'E' then
        (match r with
         | [] => none
         | _ =>
           let (eneg, q) := match r with | '-' :: q => (true, q) | '+' :: q => (false, q) | q => (false, q)
           let ed := q.takeWhile isDigit
           let ev : Nat := min (digitsVal ed) i32Max
           some (if ed.isEmpty then none else some (if eneg then -(ev : Int) else (ev : Int)), q.dropWhile isDigit))
      else some (none, r2)
    | [] => some (none, [])
  match expo with
  | none => none
  | some (ex, r3) =>
    let unc : Option (Option Nat × List Char) :=
      match r3 with
      | '(' :: r =>
        let ud := r.takeWhile isDigit
        (match r.dropWhile isDigit with
         | ')' :: r4 => some (some (min (digitsVal ud) u32Max), r4)
         | _ => none)
      | r => some (none, r)
    match unc with
    | none => none
    | some (u, r4) =>
      if (ip.isEmpty && fp.isEmpty) || !r4.isEmpty then none
      else
        let mantN : Nat := digitsVal (ip ++ fp)
        let mant : Int := if neg then -(mantN : Int) else mantN
        let sig := ((ip ++ fp).dropWhile (· == '0')).length
        -- the literal is handed to `str::parse::<f64>`: correctly rounded, infinite beyond the `f64` range,
        -- zero below it
        let e : Int := (match ex with | some e => e | none => 0) - (fp.length : Int)
        let f : Flt :=
          if mantN = 0 then .fin 0 0
          else if (sig : Int) + e < -330 then .fin 0 0
          else if (Flt.fin mant e).isFinite then .fin mant e
          else .inf neg
        match u with
        | none => some (.num f sig t)
        | some u => some (.numU f sig t u)

/-- `is_ordinary` -/
def isOrdinary (c : Char) : Bool :=
  !(c == '#' || c == '$' || c == '\'' || c == '"' || c == '_' || c == '[' || c == ']' || c == ';' ||
    c == ' ' || c == '\t') && (33 ≤ c.toNat && c.toNat ≤ 126)

def reservedStart (s : List Char) : Bool :=
  (startWith "data_".toList s).isSome || (startWith "global_".toList s).isSome ||
  (startWith "loop_".toList s).isSome || (startWith "save_".toList s).isSome ||
  (startWith "stop_".toList s).isSome

/-- `parse_enclosed` on the text after the opening quote: the text up to the first `pat`, refused when a
line break comes first or the text ends -/
def parseEnclosed (pat : Char) (s : List Char) : Option (List Char × List Char) :=
  let stop := fun (c : Char) => c == pat || c == '\n' || c == '\r'
  match s.dropWhile (fun c => !stop c) with
  | c :: r => if c == pat then some (s.takeWhile (fun c => !stop c), r) else none
  | [] => none

/-- `parse_multiline_string` on the text after the opening `;`: everything (line breaks included) up to the
first `;` that directly follows a line break -/
def scanMulti : Bool → List Char → List Char → Option (List Char × List Char)
  | _, _, [] => none
  | eol, acc, c :: r =>
    if eol && c == ';' then some (acc.reverse, r)
    else scanMulti (c == '\n' || c == '\r') (c :: acc) r

/-- `parse_value`.  An error leaves the input at the trimmed position (`trimCW false s`). -/
def parseValue (s : List Char) : Except String (CifValue × List Char) :=
  match trimCW false s with
  | [] => .error "Empty value"
  | c :: r =>
    let t := c :: r
    if reservedStart t then .error "Use of reserved word"
    else if c == '.' then
      match parseNumeric (identOf t) with
      | some v => .ok (v, afterIdent t)
      | none => .ok (.inapplicable, r)
    else if c == '?' then .ok (.unknown, r)
    else if c == '\'' || c == '"' then
      match parseEnclosed c r with
      | some (txt, rest) => .ok (.text txt, rest)
      | none => .error "Invalid enclosing"
    else if c == ';' then
      match scanMulti false [] r with
      | some (txt, rest) => .ok (.text txt, rest)
      | none => .error "Multiline string not finished"
    else if isOrdinary c then
      match parseNumeric (identOf t) with
      | some v => .ok (v, afterIdent t)
      | none => .ok (.text (identOf t), afterIdent t)
    else .error "Invalid value"

theorem trimCW_length (b : Bool) (s : List Char) : (trimCW b s).length ≤ s.length := by
  fun_induction trimCW b s with
  | case1 | case6 => exact Nat.le_refl _
  | case2 _ _ _ ih | case3 _ _ _ ih | case4 _ _ _ ih | case5 _ _ _ _ ih => exact Nat.le_succ_of_le ih

theorem afterIdent_length (s : List Char) : (afterIdent s).length ≤ s.length :=
  List.Sublist.length_le (List.dropWhile_sublist _)

theorem startWith_length {pat s r : List Char} (h : startWith pat s = some r) :
    r.length + pat.length = s.length := by
  unfold startWith at h
  split at h
  · next hp =>
    cases h
    have hl := congrArg List.length (eq_of_beq hp)
    rw [List.length_map, List.length_take] at hl
    rw [List.length_drop]
    omega
  · cases h

theorem scanMulti_length (eol : Bool) (acc s : List Char) {txt rest : List Char} :
    scanMulti eol acc s = some (txt, rest) → rest.length < s.length := by
  fun_induction scanMulti eol acc s with
  | case1 => exact nofun
  | case2 =>
    rintro ⟨⟩
    exact Nat.lt_succ_self _
  | case3 _ _ _ _ _ ih => exact fun h => Nat.lt_succ_of_lt (ih h)

theorem parseEnclosed_length (pat : Char) (s : List Char) {txt rest : List Char} :
    parseEnclosed pat s = some (txt, rest) → rest.length < s.length := by
  fun_cases parseEnclosed pat s with
  | case1 stop c r heq =>
    rintro ⟨⟩
    have := (List.dropWhile_sublist (fun c => !stop c) (l := s)).length_le
    rwa [heq] at this
  | case2 | case3 => exact nofun

theorem afterIdent_lt (c : Char) (r : List Char) (hc : isAsciiWs c = false) :
    (afterIdent (c :: r)).length < (c :: r).length := by
  unfold afterIdent
  rw [List.dropWhile_cons_of_pos (by rw [hc]; rfl)]
  exact Nat.lt_succ_of_le (afterIdent_length r)

theorem asciiWs_mem {w : Char} (h : isAsciiWs w = true) : w ∈ [' ', '\t', '\n', '\r', Char.ofNat 12] := by
  simp only [isAsciiWs, Bool.or_eq_true, beq_iff_eq] at h
  rcases h with (((rfl | rfl) | rfl) | rfl) | h
  · decide
  · decide
  · decide
  · decide
  · rw [← Char.ofNat_toNat w, h]
    decide

theorem isOrdinary_ge {c : Char} (h : isOrdinary c = true) : 33 ≤ c.toNat := by
  simp only [isOrdinary, Bool.and_eq_true, decide_eq_true_eq] at h
  exact h.2.1

/-- white space lies below the printable range -/
theorem isOrdinary_not_ws (c : Char) (h : isOrdinary c = true) : isAsciiWs c = false :=
  Bool.eq_false_iff.mpr fun hw => Nat.not_succ_le_self 32 (Nat.le_trans (isOrdinary_ge h)
    ((by decide : ∀ w ∈ [' ', '\t', '\n', '\r', Char.ofNat 12], w.toNat ≤ 32) c (asciiWs_mem hw)))

/-- **every value consumes input** — the `while let Ok(value) = parse_value(input)` loop terminates -/
theorem parseValue_length {s : List Char} {v : CifValue} {rest : List Char}
    (h : parseValue s = .ok (v, rest)) : rest.length < s.length := by
  suffices parseValue s = .ok (v, rest) → rest.length < (trimCW false s).length from
    Nat.lt_of_lt_of_le (this h) (trimCW_length false s)
  -- one case per branch of `parseValue`; in all but the first (nothing left), `heq : trimCW false s = c :: r`
  fun_cases parseValue s with
  | case1 | case2 | case7 | case9 | case12 => exact nofun
  | case3 c r heq _ _ hdot =>
    -- a number that begins with `.`
    rintro ⟨⟩
    rw [heq]
    exact afterIdent_lt c r (by rw [eq_of_beq hdot]; rfl)
  | case4 c r heq | case5 c r heq =>
    -- a lone `.`, and `?`
    rintro ⟨⟩
    rw [heq]
    exact Nat.lt_succ_self _
  | case6 c r heq _ _ _ _ _ _ _ he =>
    rintro ⟨⟩
    rw [heq]
    exact Nat.lt_succ_of_lt (parseEnclosed_length c r he)
  | case8 c r heq _ _ _ _ _ _ _ _ he =>
    rintro ⟨⟩
    rw [heq]
    exact Nat.lt_succ_of_lt (scanMulti_length false [] r he)
  | case10 c r heq _ _ _ _ _ _ hord | case11 c r heq _ _ _ _ _ _ hord =>
    -- a bare word, number or text
    rintro ⟨⟩
    rw [heq]
    exact afterIdent_lt c r (isOrdinary_not_ws c hord)

/-! ## data items -/

inductive DataItem where
  | single (name : List Char) (v : CifValue)
  | loop (header : List (List Char)) (rows : List (List CifValue))
  deriving Repr, DecidableEq, Inhabited

inductive Item where
  | data (d : DataItem)
  | frame (name : List Char) (items : List DataItem)
  deriving Repr, Inhabited

structure DataBlock where
  name : List Char
  items : List Item
  deriving Repr, Inhabited

/-- `while let Ok(value) = parse_value(input)`: the values and the position the loop stops at -/
def collectValues (s : List Char) : List CifValue × List Char :=
  match h : parseValue s with
  | .ok (v, rest) =>
    let p := collectValues rest
    (v :: p.1, p.2)
  | .error _ => ([], trimCW false s)
termination_by s.length
decreasing_by exact parseValue_length h

/-- the header loop `while let Some(()) = start_with(input, "_")` (input already trimmed) -/
def collectHeader (s : List Char) : List (List Char) × List Char :=
  match h : startWith ['_'] s with
  | some r =>
    let p := collectHeader (trimCW false (afterIdent r))
    (identOf r :: p.1, p.2)
  | none => ([], s)
termination_by s.length
decreasing_by
  have h1 := startWith_length h
  have h2 := afterIdent_length r
  have h3 := trimCW_length false (afterIdent r)
  simp only [List.length_cons, List.length_nil] at h1
  omega

def chunk (n : Nat) (l : List CifValue) : List (List CifValue) :=
  if hn : n = 0 then [] else
  match hl : l with
  | [] => []
  | _ :: _ => l.take n :: chunk n (l.drop n)
termination_by l.length
decreasing_by subst hl; simp only [List.length_drop, List.length_cons]; omega

/-- `parse_data_item`: result and the position afterwards (the position matters after a failure inside a
save frame, where the caller goes on to look for the closing `save_`) -/
def parseDataItem (s : List Char) : Except String DataItem × List Char :=
  let t := trimCW false s
  match startWith "loop_".toList t with
  | some r =>
    let (header, r1) := collectHeader (trimCW false r)
    let (values, r2) := collectValues r1
    if header.length = 0 then (.error "Loop has no header", r2)
    else if values.length % header.length = 0 then (.ok (.loop header (chunk header.length values)), r2)
    else (.error "Loop has incorrect number of data items", r2)
  | none =>
    match startWith ['_'] t with
    | some r =>
      (match parseValue (afterIdent r) with
       | .ok (v, r1) => (.ok (.single (identOf r) v), r1)
       | .error _ => (.error "No valid Value", trimCW false (afterIdent r)))
    | none => (.error "No valid DataItem", t)

theorem collectValues_length (s : List Char) : (collectValues s).2.length ≤ s.length := by
  fun_induction collectValues s with
  | case1 s v rest h p ih => exact Nat.le_trans ih (Nat.le_of_lt (parseValue_length h))
  | case2 s e h => exact trimCW_length false s

theorem collectHeader_length (s : List Char) : (collectHeader s).2.length ≤ s.length := by
  fun_induction collectHeader s with
  | case1 s r h p ih =>
    have h1 : r.length + 1 = s.length := startWith_length h
    have h2 := afterIdent_length r
    have h3 := trimCW_length false (afterIdent r)
    exact Nat.le_trans ih (by omega)
  | case2 s h => exact Nat.le_refl _

/-- where `parse_data_item` leaves the input: behind the `loop_` or the `_` it has read, whatever comes of the rest;
when there is neither, at the trimmed position -/
theorem parseDataItem_position (s : List Char) :
    (parseDataItem s).2.length < s.length ∨ parseDataItem s = (.error "No valid DataItem", trimCW false s) := by
  have ht := trimCW_length false s
  fun_cases parseDataItem s with
  | case1 t r hr header r1 hh values r2 hv | case2 t r hr header r1 hh values r2 hv
  | case3 t r hr header r1 hh values r2 hv =>
    have h1 : r.length + 5 = (trimCW false s).length := startWith_length hr
    have h2 := trimCW_length false r
    have h3 := collectHeader_length (trimCW false r)
    have h4 := collectValues_length r1
    simp only [hh] at h3
    simp only [hv] at h4
    exact .inl (show r2.length < s.length by omega)
  | case4 t _ r hr v r1 hv =>
    have h1 : r.length + 1 = (trimCW false s).length := startWith_length hr
    have h2 := afterIdent_length r
    have h3 := parseValue_length hv
    exact .inl (show r1.length < s.length by omega)
  | case5 t _ r hr =>
    have h1 : r.length + 1 = (trimCW false s).length := startWith_length hr
    have h2 := afterIdent_length r
    have h3 := trimCW_length false (afterIdent r)
    exact .inl (show (trimCW false (afterIdent r)).length < s.length by omega)
  | case6 => exact .inr rfl

/-- **a parsed data item consumes input** — the item loops of the data block and of save frames terminate -/
theorem parseDataItem_length {s : List Char} {d : DataItem} (h : (parseDataItem s).1 = .ok d) :
    (parseDataItem s).2.length < s.length :=
  (parseDataItem_position s).resolve_right fun e => by rw [e] at h; cases h

/-- items of a save frame: `while let Ok(item) = parse_data_item(input)` -/
def collectItems (s : List Char) : List DataItem × List Char :=
  match h : (parseDataItem s).1 with
  | .ok d =>
    let p := collectItems (parseDataItem s).2
    (d :: p.1, p.2)
  | .error _ => ([], (parseDataItem s).2)
termination_by s.length
decreasing_by exact parseDataItem_length h

theorem collectItems_length (s : List Char) : (collectItems s).2.length ≤ s.length := by
  fun_induction collectItems s with
  | case1 s d h p ih => exact Nat.le_trans ih (Nat.le_of_lt (parseDataItem_length h))
  | case2 s e h => exact (parseDataItem_position s).elim Nat.le_of_lt fun e => e ▸ trimCW_length false s

/-- `parse_data_item_or_save_frame` (input already trimmed) -/
def parseItem (s : List Char) : Except String Item × List Char :=
  match startWith "save_".toList s with
  | some r =>
    let (items, r1) := collectItems (afterIdent r)
    (match startWith "save_".toList r1 with
     | some r2 => (.ok (.frame (identOf r) items), r2)
     | none => (.error "No matching 'save_' found", r1))
  | none =>
    match parseDataItem s with
    | (.ok d, r) => (.ok (.data d), r)
    | (.error e, r) => (.error e, r)

theorem parseItem_length {s : List Char} {i : Item} :
    (parseItem s).1 = .ok i → (parseItem s).2.length < s.length := by
  fun_cases parseItem s with
  | case1 r hr items r1 hi r2 hr2 =>
    have h1 : r.length + 5 = s.length := startWith_length hr
    have h2 := afterIdent_length r
    have h3 := collectItems_length (afterIdent r)
    have h4 : r2.length + 5 = r1.length := startWith_length hr2
    simp only [hi] at h3
    exact fun _ => show r2.length < s.length by omega
  | case2 | case4 => exact nofun
  | case3 _ d r hd =>
    have := parseDataItem_length (s := s) (d := d) (by rw [hd])
    rw [hd] at this
    exact fun _ => this

/-- the item loop of `parse_data_block` -/
def blockItems (s : List Char) : Except String (List Item) :=
  match ht : trimCW false s with
  | [] => .ok []
  | c :: r =>
    match h : (parseItem (c :: r)).1 with
    | .ok i => (blockItems (parseItem (c :: r)).2).map (i :: ·)
    | .error e => .error e
termination_by s.length
decreasing_by
  have h1 := parseItem_length h
  have h2 := trimCW_length false s
  rw [ht] at h2
  omega

/-- `lex_cif` -/
def lexCif (text : List Char) : Except String DataBlock :=
  match startWith "data_".toList (trimCW false text) with
  | none => .error "Data Block not opened"
  | some r =>
    match blockItems (afterIdent r) with
    | .ok items => .ok { name := identOf r, items := items }
    | .error e => .error e

end PdbModel
