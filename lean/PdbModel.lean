import PdbModel.Driver
import PdbModel.DriverCif
import PdbModel.DriverC15
import PdbModel.Props.C01
import PdbModel.Props.C01Bond
import PdbModel.Props.C01Frame
import PdbModel.Props.C01Meta
import PdbModel.Props.C01Seqres
import PdbModel.Props.C02
import PdbModel.Props.C02Atom
import PdbModel.Props.C02Group
import PdbModel.Props.C02Row
import PdbModel.Props.C03
import PdbModel.Props.C03Record
import PdbModel.Props.C04
import PdbModel.Props.C04Num
import PdbModel.Props.C04Row
import PdbModel.Props.C04Typed
import PdbModel.Props.C05
import PdbModel.Props.C06
import PdbModel.Props.C07
import PdbModel.Props.C07Cif
import PdbModel.Props.C07Pdb
import PdbModel.Props.C08
import PdbModel.Props.C09
import PdbModel.Props.C10
import PdbModel.Props.C11
import PdbModel.Props.C12
import PdbModel.Props.C13
import PdbModel.Props.C14
import PdbModel.Props.C14Map
import PdbModel.Props.C15
import PdbModel.Props.C15CifLoop
import PdbModel.Props.C15Pdb
import PdbModel.Props.C15PdbFirst
import PdbModel.Props.C15PdbH
import PdbModel.Props.C16
import PdbModel.Props.C16Seqres
import PdbModel.Props.C17
import PdbModel.Props.C17Cif
import PdbModel.Props.C17Cryst
import PdbModel.Props.C18
